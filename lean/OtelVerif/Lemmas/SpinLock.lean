import OtelVerif.Model.SpinLock
import OtelVerif.Lemmas.Run
namespace Otel.SpinLock
open Otel.Ring (upd upd_same upd_other)

structure Inv (s : St) : Prop where
  heldFlag : ∀ p, Holds s p → s.flag = true
  unique   : ∀ p q, Holds s p → Holds s q → p = q
  trySound : ∀ x ∈ s.tryResults, x.2.2 = !x.2.1

theorem inv_init : Inv init := ⟨by simp [Holds, init], by simp [Holds, init], by simp [init]⟩

theorem holds_upd_same {s s' : St} {p : Nat} {pc : Pc} (h : s'.pcs = upd s.pcs p pc) :
    Holds s' p ↔ (pc = .holding ∨ pc = .unlocking) := by rw [Holds, h, upd_same]
theorem holds_upd_other {s s' : St} {p q : Nat} {pc : Pc} (h : s'.pcs = upd s.pcs p pc) (hq : q ≠ p) :
    Holds s' q ↔ Holds s q := by rw [Holds, Holds, h, upd_other _ _ _ _ hq]

/-- The three kinds of step of a thread `p`: one that keeps `p` inside or outside the critical section and leaves the
    flag alone, an acquisition (the exchange read `false`), and the release. -/
inductive Kind (s s' : St) (p : Nat) : Prop
  | keep (pc : Pc) : s'.pcs = upd s.pcs p pc → s'.flag = s.flag → (Holds s p ↔ (pc = .holding ∨ pc = .unlocking)) → Kind s s' p
  | acquire : s.flag = false → s'.flag = true → s'.pcs = upd s.pcs p .holding → Kind s s' p
  | release : s.pcs p = .unlocking → s'.flag = false → s'.pcs = upd s.pcs p .idle → Kind s s' p

theorem holds_keep {s s' : St} {p : Nat} {pc : Pc} (hiff : Holds s p ↔ (pc = .holding ∨ pc = .unlocking))
    (hp : s'.pcs = upd s.pcs p pc) (q : Nat) : Holds s' q ↔ Holds s q := by
  by_cases hq : q = p
  · rw [hq, holds_upd_same hp, hiff]
  · exact holds_upd_other hp hq

/-- every step is of one of the three kinds, and a `try_lock` it completes reports the negation of what it read -/
theorem step_kind {s s' : St} {a : Act} (h : step s a = some s') :
    ∃ p, Kind s s' p ∧ ∀ x ∈ s'.tryResults, x ∈ s.tryResults ∨ x.2.2 = !x.2.1 := by
  have same : ∀ x ∈ s.tryResults, x ∈ s.tryResults ∨ x.2.2 = !x.2.1 := fun x hx => .inl hx
  have cons : ∀ (p : Nat) (r : Bool), ∀ x ∈ (p, r, !r) :: s.tryResults, x ∈ s.tryResults ∨ x.2.2 = !x.2.1 :=
    fun p r x hx => by
      rcases List.mem_cons.1 hx with rfl | hx
      · exact .inr rfl
      · exact .inl hx
  cases a with
  | beginLock p =>
    simp only [step] at h
    split at h <;> cases h
    rename_i hpc; exact ⟨p, .keep .lockXchg rfl rfl (by simp [Holds, hpc]), same⟩
  | beginTry p =>
    simp only [step] at h
    split at h <;> cases h
    rename_i hpc; exact ⟨p, .keep .tryLoad rfl rfl (by simp [Holds, hpc]), same⟩
  | leave p =>
    simp only [step] at h
    split at h <;> cases h
    rename_i hpc; exact ⟨p, .keep .unlocking rfl rfl (by simp [Holds, hpc]), same⟩
  | step p =>
    refine ⟨p, ?_⟩
    simp only [step] at h
    revert h
    -- outside the critical section a thread moves to another such pc, unless its exchange reads `false`
    cases hpc : s.pcs p <;> intro h <;> simp only at h
    case idle | holding => cases h
    case unlocking => cases h; exact ⟨.release hpc rfl rfl, same⟩
    case yielding | sleeping => cases h; exact ⟨.keep _ rfl rfl (by simp [Holds, hpc]), same⟩
    case yLoad => split at h <;> cases h <;> exact ⟨.keep _ rfl rfl (by simp [Holds, hpc]), same⟩
    case spinLoad i =>
      split at h <;> cases h
      · exact ⟨.keep _ rfl rfl (by unfold afterSpinFail; split <;> simp [Holds, hpc]), same⟩
      · exact ⟨.keep _ rfl rfl (by simp [Holds, hpc]), same⟩
    case lockXchg =>
      split at h <;> cases h
      · exact ⟨.keep _ rfl rfl (by split <;> simp [Holds, hpc]), same⟩
      · rename_i hfl; exact ⟨.acquire (by simpa using hfl) rfl rfl, same⟩
    case spinXchg i =>
      split at h <;> cases h
      · exact ⟨.keep _ rfl rfl (by unfold afterSpinFail; split <;> simp [Holds, hpc]), same⟩
      · rename_i hfl; exact ⟨.acquire (by simpa using hfl) rfl rfl, same⟩
    case yXchg =>
      split at h <;> cases h
      · exact ⟨.keep _ rfl rfl (by simp [Holds, hpc]), same⟩
      · rename_i hfl; exact ⟨.acquire (by simpa using hfl) rfl rfl, same⟩
    case tryLoad =>
      split at h <;> cases h
      · exact ⟨.keep _ rfl rfl (by simp [Holds, hpc]), cons p true⟩
      · exact ⟨.keep _ rfl rfl (by simp [Holds, hpc]), same⟩
    case tryXchg =>
      split at h <;> cases h
      · exact ⟨.keep _ rfl rfl (by simp [Holds, hpc]), cons p true⟩
      · rename_i hfl; exact ⟨.acquire (by simpa using hfl) rfl rfl, cons p false⟩

theorem inv_step (s s' : St) (a : Act) (hI : Inv s) (h : step s a = some s') : Inv s' := by
  obtain ⟨p, hk, ht⟩ := step_kind h
  have hts : ∀ x ∈ s'.tryResults, x.2.2 = !x.2.1 := fun x hx => (ht x hx).elim (hI.trySound x) id
  cases hk with
  | keep pc hp hf hiff =>
    have hH := holds_keep hiff hp
    exact ⟨fun q hq => hf ▸ hI.heldFlag q ((hH q).1 hq), fun q r hq hr => hI.unique q r ((hH q).1 hq) ((hH r).1 hr), hts⟩
  | acquire hfree hf hp =>
    -- the flag was free, so nobody held the lock
    have hnone : ∀ q, ¬ Holds s q := fun q hq => by have := hI.heldFlag q hq; rw [hfree] at this; cases this
    have hH : ∀ q, Holds s' q → q = p := fun q hq => by
      by_cases hqp : q = p
      · exact hqp
      · exact absurd ((holds_upd_other hp hqp).1 hq) (hnone q)
    exact ⟨fun _ _ => hf, fun q r hq hr => (hH q hq).trans (hH r hr).symm, hts⟩
  | release hpc hf hp =>
    -- the releasing thread was the only holder
    have hnone : ∀ q, ¬ Holds s' q := fun q hq => by
      by_cases hqp : q = p
      · subst hqp; rcases (holds_upd_same hp).1 hq with h | h <;> cases h
      · exact hqp (hI.unique q p ((holds_upd_other hp hqp).1 hq) (.inr hpc))
    exact ⟨fun q hq => absurd hq (hnone q), fun q r hq _ => absurd hq (hnone q), hts⟩

theorem inv_run (s s' : St) (as : List Act) (hI : Inv s) (h : run s as = some s') : Inv s' :=
  Run.ind (fun _ => rfl) (fun s a as => by simp only [run]; cases step s a <;> rfl) inv_step as s s' hI h

end Otel.SpinLock
