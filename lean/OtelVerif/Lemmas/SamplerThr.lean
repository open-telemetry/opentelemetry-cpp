import Mathlib.Data.Rat.Floor
import OtelVerif.Model.Sampler
/-! # `CalculateThreshold` is monotone, for every monotone rounding that fixes the integers below 2^53

The argument of DESIGN.md, Appendix E.  `thr R p` is the part of `CalculateThreshold` after the product
`p = fl(UINT32_MAX * ratio)` has been formed, over the integers (no wrap-around); `thr_bounds` shows that no
wrap-around can occur, `thr_mono` that it is monotone in `p`. -/
namespace Otel.C12
open Otel Otel.Sampler

/-- The model is core Lean and writes `Rat.floor`; Mathlib's `⌊·⌋` on `ℚ` is that function by definition. -/
theorem rat_floor_eq (q : ℚ) : Rat.floor q = ⌊q⌋ := rfl

/-- an abstract rounding `ℚ → ℚ`: monotone, and the identity on integers of magnitude below 2^53 -/
structure Rnd where
  fl : ℚ → ℚ
  mono : ∀ x y : ℚ, x ≤ y → fl x ≤ fl y
  fixInt : ∀ n : ℤ, |n| < 2 ^ 53 → fl n = n

variable (R : Rnd)

/-- a bound by a representable integer survives rounding -/
theorem Rnd.le_int {x : ℚ} {n : ℤ} (hn : |n| < 2 ^ 53) (h : x ≤ n) : R.fl x ≤ n :=
  (R.mono x n h).trans (R.fixInt n hn).le

theorem Rnd.int_le {x : ℚ} {n : ℤ} (hn : |n| < 2 ^ 53) (h : (n : ℚ) ≤ x) : (n : ℚ) ≤ R.fl x :=
  (R.fixInt n hn).ge.trans (R.mono n x h)

theorem Rnd.nonneg {x : ℚ} (h : 0 ≤ x) : 0 ≤ R.fl x := by
  have := R.int_le (x := x) (n := 0) (by norm_num) (by rwa [Int.cast_zero])
  rwa [Int.cast_zero] at this

/-- `(hi << 32) + lo` over ℤ, with `hi = ⌊p⌋` and `lo = ⌊fl(2^32·frac(p) + p)⌋` -/
def thr (p : ℚ) : ℤ := 2 ^ 32 * ⌊p⌋ + ⌊R.fl (2 ^ 32 * (p - ⌊p⌋) + p)⌋

theorem thr_intCast (n : ℤ) (h : |n| < 2 ^ 53) : thr R n = 2 ^ 32 * n + n := by
  unfold thr
  rw [Int.floor_intCast, sub_self, mul_zero, zero_add, R.fixInt n h, Int.floor_intCast]

/-- `UINT32_MAX` is an integer, so `fl` fixes it -/
theorem u32Max_cast : ((2 ^ 32 - 1 : ℤ) : ℚ) = 2 ^ 32 - 1 := by norm_num

/-- The high word `⌊p⌋` is in `[0, 2^32)`, and the low word lies between `⌊p⌋` and `2^32 + ⌊p⌋ + 1`: the argument of
    `fl` does, since `0 ≤ frac p < 1`, and both bounds are integers that `fl` fixes. -/
theorem word_bounds (p : ℚ) (h0 : 0 ≤ p) (hU : p ≤ 2 ^ 32 - 1) :
    0 ≤ ⌊p⌋ ∧ ⌊p⌋ < 2 ^ 32 ∧
    ⌊p⌋ ≤ ⌊R.fl (2 ^ 32 * (p - ⌊p⌋) + p)⌋ ∧ ⌊R.fl (2 ^ 32 * (p - ⌊p⌋) + p)⌋ ≤ 2 ^ 32 + (⌊p⌋ + 1) := by
  have h1 : 0 ≤ ⌊p⌋ := Int.floor_nonneg.2 h0
  have h2 : ⌊p⌋ < 2 ^ 32 := Int.floor_lt.2 (hU.trans_lt (by norm_num))
  -- both integer bounds lie in `[0, 2^33]` (by `h1`, `h2`), well inside the range `fl` fixes
  have hlo : |⌊p⌋| < 2 ^ 53 := abs_lt.2 (by omega)
  have hhi : |2 ^ 32 + (⌊p⌋ + 1)| < 2 ^ 53 := abs_lt.2 (by omega)
  refine ⟨h1, h2, ?_, ?_⟩
  · -- `⌊p⌋ ≤ p ≤ 2^32 · frac p + p`
    exact Int.le_floor.2 (R.int_le hlo ((Int.floor_le p).trans
      (le_add_of_nonneg_left (mul_nonneg (by norm_num) (sub_nonneg.2 (Int.floor_le p))))))
  · -- `2^32 · frac p + p ≤ 2^32 · 1 + (⌊p⌋ + 1)`
    refine Int.floor_le_iff.2 ((R.le_int hhi ?_).trans_lt (lt_add_one _))
    push_cast
    exact add_le_add (mul_le_of_le_one_right (by norm_num) (sub_left_le_of_le_add (Int.lt_floor_add_one p).le))
      (Int.lt_floor_add_one p).le

theorem thr_mono (p₁ p₂ : ℚ) (h0 : 0 ≤ p₁) (hle : p₁ ≤ p₂) (hU : p₂ ≤ 2 ^ 32 - 1) :
    thr R p₁ ≤ thr R p₂ := by
  unfold thr
  rcases (Int.floor_mono hle).eq_or_lt with heq | hlt
  · -- same integer part: the argument of `fl` grows with `p`
    rw [heq]
    exact Int.add_le_add_left (Int.floor_mono (R.mono _ _
      (add_le_add (mul_le_mul_of_nonneg_left (sub_le_sub_right hle _) (by norm_num)) hle))) _
  · -- integer part grows by at least one: `2^32` more in the high word, at most `2^32` less in the low word
    have := (word_bounds R p₁ h0 (hle.trans hU)).2.2.2
    have := (word_bounds R p₂ (h0.trans hle) hU).2.2.1
    omega

/-- the ranges of the two conversions to `uint64_t` and of the sum: nothing wraps -/
theorem thr_bounds (p : ℚ) (h0 : 0 ≤ p) (hU : p ≤ 2 ^ 32 - 1) :
    0 ≤ ⌊p⌋ ∧ ⌊p⌋ ≤ 2 ^ 32 - 1 ∧ 0 ≤ ⌊R.fl (2 ^ 32 * (p - ⌊p⌋) + p)⌋ ∧ thr R p ≤ 2 ^ 64 - 1 := by
  obtain ⟨h1, h2, h3, -⟩ := word_bounds R p h0 hU
  -- the largest value is taken at the right end, where it is `2^32·(2^32-1) + (2^32-1)`
  have hmax : thr R (2 ^ 32 - 1) = 2 ^ 64 - 1 := by
    rw [← u32Max_cast, thr_intCast R _ (by norm_num)]; norm_num
  exact ⟨h1, Int.le_sub_one_of_lt h2, h1.trans h3, (thr_mono R p _ h0 hU le_rfl).trans_eq hmax⟩

theorem gen_constants :
    Gen.samplerThresholdMax = 2 ^ 64 - 1 ∧ Gen.samplerMultiplier = 2 ^ 32 - 1 ∧ Gen.samplerLdexp = 32 ∧
    Gen.samplerShift = 32 ∧ Gen.samplerIdBytes = 8 ∧ Gen.samplerIdDivisor = 2 ^ 64 - 1 := by decide

theorem thresholdWith_of_nonpos (rnd : ℚ → ℚ) {r : ℚ} (h : r ≤ 0) : thresholdWith rnd r = 0 := by
  unfold thresholdWith; rw [if_pos h]

theorem thresholdWith_of_one_le (rnd : ℚ → ℚ) {r : ℚ} (h : 1 ≤ r) : thresholdWith rnd r = 2 ^ 64 - 1 := by
  unfold thresholdWith; rw [if_neg (not_le.2 (zero_lt_one.trans_le h)), if_pos h, gen_constants.1]

/-- the rounded product `fl(UINT32_MAX · r)` stays in `[0, 2^32 - 1]` for `0 ≤ r ≤ 1` -/
theorem product_bounds (r : ℚ) (h0 : 0 ≤ r) (h1 : r ≤ 1) :
    0 ≤ R.fl ((2 ^ 32 - 1) * r) ∧ R.fl ((2 ^ 32 - 1) * r) ≤ 2 ^ 32 - 1 := by
  have hU : (0 : ℚ) ≤ 2 ^ 32 - 1 := by norm_num
  rw [← u32Max_cast] at hU ⊢
  exact ⟨R.nonneg (mul_nonneg hU h0), R.le_int (by norm_num) (mul_le_of_le_one_right hU h1)⟩

/-- inside `(0,1)` the model's `thresholdWith` is `thr` of the rounded product: the `% 2^64` are vacuous -/
theorem thresholdWith_eq (r : ℚ) (h0 : 0 < r) (h1 : r < 1) :
    (thresholdWith R.fl r : ℤ) = thr R (R.fl ((2 ^ 32 - 1) * r)) := by
  obtain ⟨hp0, hpU⟩ := product_bounds R r h0.le h1.le
  obtain ⟨hnn, hlt, hlnn, hmax⟩ := thr_bounds R _ hp0 hpU
  obtain ⟨-, hMultiplier, hLdexp, hShift, -, -⟩ := gen_constants
  unfold thr at hmax ⊢
  unfold thresholdWith toU64
  rw [if_neg (not_le.mpr h0), if_neg (not_le.mpr h1), hMultiplier, hLdexp, hShift,
    show (((2 ^ 32 - 1 : ℕ) : ℕ) : ℚ) = 2 ^ 32 - 1 by norm_num]
  simp only [rat_floor_eq, Int.floor_intCast]
  -- The goal is `((hi.toNat % 2^64 * 2^32) % 2^64 + lo.toNat % 2^64) % 2^64 = 2^32 * hi + lo` with `hi`, `lo` the two
  -- floors.  `toNat` is the identity on them (`hh`, `hl`); `hi ≤ 2^32 - 1` (`hlt`) keeps `hi` and `hi * 2^32` below
  -- 2^64, and `2^32 * hi + lo ≤ 2^64 - 1` (`hmax`) keeps `lo` and the sum below 2^64: no `%` does anything.
  have hh := Int.toNat_of_nonneg hnn
  have hl := Int.toNat_of_nonneg hlnn
  omega

end Otel.C12
