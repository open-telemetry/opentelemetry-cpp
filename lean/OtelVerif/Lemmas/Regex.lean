import OtelVerif.Model.Regex
/-! Declarative semantics of the regex fragment and its equivalence with the backtracking matcher `rxGo`. -/
namespace Otel

/-- `s` splits into consecutive chunks, one per item, each chunk inside the item's class and repetition bounds -/
def RxSem : List RxItem → Bytes → Prop
  | [], s => s = []
  | it :: rest, s => ∃ a b, s = a ++ b ∧ it.lo ≤ a.length ∧ it.allows a.length = true ∧ (∀ c ∈ a, it.has c = true) ∧ RxSem rest b

theorem RxItem.allows_mono (it : RxItem) {j k : Nat} (hjk : j ≤ k) (h : it.allows k = true) : it.allows j = true := by
  unfold RxItem.allows at *
  cases hh : it.hi with
  | none => simp
  | some m => simp [hh] at h ⊢; omega

/-- `RxSem` with `k` repetitions of the head item already taken: what `rxGo items k` decides.
    The upper bound is asked for only when a further byte is taken (`a ≠ []`): `rxGo` tests `allows (k + 1)` at the moment
    it consumes a byte and never looks at `allows k` again. -/
def RxSemK : List RxItem → Nat → Bytes → Prop
  | [], _, s => s = []
  | it :: rest, k, s => ∃ a b, s = a ++ b ∧ it.lo ≤ k + a.length ∧ (a ≠ [] → it.allows (k + a.length) = true) ∧
      (∀ c ∈ a, it.has c = true) ∧ RxSemK rest 0 b

theorem rxGo_iff : ∀ (items : List RxItem) (k : Nat) (s : Bytes), rxGo items k s = true ↔ RxSemK items k s := by
  intro items k s
  induction items, k, s using rxGo.induct with
  | case1 k s => rw [rxGo]; simp [RxSemK]
  | case2 it rest k ih =>
    rw [rxGo]
    simp only [Bool.and_eq_true, decide_eq_true_eq, RxSemK]
    constructor
    · rintro ⟨hlo, hr⟩
      exact ⟨[], [], rfl, by simpa using hlo, by simp, by simp, ih.1 hr⟩
    · rintro ⟨a, b, hab, hlo, _, _, hb⟩
      have : a = [] ∧ b = [] := List.append_eq_nil_iff.1 hab.symm
      obtain ⟨rfl, rfl⟩ := this
      exact ⟨by simpa using hlo, ih.2 hb⟩
  | case3 it rest k c t ih1 ih2 =>
    rw [rxGo]
    simp only [Bool.or_eq_true, Bool.and_eq_true, decide_eq_true_eq, RxSemK]
    constructor
    · rintro (⟨hlo, hr⟩ | ⟨⟨hc, hal⟩, hr⟩)
      · exact ⟨[], c :: t, rfl, by simpa using hlo, by simp, by simp, ih1.1 hr⟩
      · obtain ⟨a, b, hab, hlo, hal', hall, hb⟩ := ih2.1 hr
        refine ⟨c :: a, b, by simp [hab], by simp; omega, ?_, ?_, hb⟩
        · intro _
          cases a with
          | nil => simpa using hal
          | cons x xs =>
            have := hal' (by simp)
            simpa [Nat.add_assoc, Nat.add_comm 1] using this
        · intro x hx
          simp only [List.mem_cons] at hx
          rcases hx with rfl | hx
          · exact hc
          · exact hall x hx
    · rintro ⟨a, b, hab, hlo, hal, hall, hb⟩
      cases a with
      | nil =>
        left
        simp only [List.nil_append] at hab
        subst hab
        exact ⟨by simpa using hlo, ih1.2 hb⟩
      | cons x xs =>
        right
        simp only [List.cons_append, List.cons.injEq] at hab
        obtain ⟨rfl, rfl⟩ := hab
        have hal0 := hal (by simp)
        refine ⟨⟨hall _ (by simp), ?_⟩, ?_⟩
        · exact it.allows_mono (by simp) hal0
        · apply ih2.2
          refine ⟨xs, b, rfl, by simp at hlo; omega, ?_, fun y hy => hall y (by simp [hy]), hb⟩
          intro _
          simpa [Nat.add_assoc, Nat.add_comm 1] using hal0

theorem RxSemK_zero_iff : ∀ (items : List RxItem) (s : Bytes), RxSemK items 0 s ↔ RxSem items s := by
  intro items
  induction items with
  | nil => intro s; simp [RxSemK, RxSem]
  | cons it rest ih =>
    intro s
    simp only [RxSemK, RxSem, Nat.zero_add]
    constructor
    · rintro ⟨a, b, hab, hlo, hal, hall, hb⟩
      refine ⟨a, b, hab, hlo, ?_, hall, (ih b).1 hb⟩
      cases a with
      | nil =>
        unfold RxItem.allows
        cases it.hi <;> simp
      | cons x xs => exact hal (by simp)
    · rintro ⟨a, b, hab, hlo, hal, hall, hb⟩
      exact ⟨a, b, hab, hlo, fun _ => hal, hall, (ih b).2 hb⟩

/-- **`std::regex_match` of the fragment = the declarative chunk semantics** -/
theorem rxMatch_iff (items : List RxItem) (s : Bytes) : rxMatch items s = true ↔ RxSem items s := by
  unfold rxMatch
  rw [rxGo_iff, RxSemK_zero_iff]

end Otel
