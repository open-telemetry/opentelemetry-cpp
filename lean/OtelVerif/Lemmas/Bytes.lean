import OtelVerif.Model.Hex
/-! `forall_byte` (a statement about every byte from its 256 instances) and lemmas about `takeTok`, `splitString`, `trim`. -/
namespace Otel

theorem forall_byte (P : UInt8 → Prop) (h : ∀ n, n < 256 → P (UInt8.ofNat n)) : ∀ b : UInt8, P b := by
  intro b
  have := h b.toNat b.toNat_lt
  simpa using this

theorem takeTok_spec {sep : UInt8} : ∀ s : Bytes, sep ∉ (takeTok sep s).1 ∧
    s = (takeTok sep s).1 ++ (match (takeTok sep s).2 with | none => [] | some rest => sep :: rest) := by
  intro s
  induction s with
  | nil => simp [takeTok]
  | cons c t ih =>
    obtain ⟨h1, h2⟩ := ih
    by_cases hc : c = sep
    · simp [takeTok, hc]
    · simp only [takeTok, if_neg hc, List.mem_cons, not_or, List.cons_append, List.cons.injEq, true_and]
      exact ⟨⟨fun e => hc e.symm, h1⟩, h2⟩

theorem takeTok_none {sep : UInt8} {s tok : Bytes} (h : takeTok sep s = (tok, none)) : s = tok ∧ sep ∉ tok := by
  have := takeTok_spec (sep := sep) s
  rw [h] at this
  exact ⟨by simpa using this.2, this.1⟩

theorem takeTok_some {sep : UInt8} {s tok rest : Bytes} (h : takeTok sep s = (tok, some rest)) :
    s = tok ++ sep :: rest ∧ sep ∉ tok := by
  have := takeTok_spec (sep := sep) s
  rw [h] at this
  exact ⟨this.2, this.1⟩

theorem takeTok_append {sep : UInt8} : ∀ (a r : Bytes), sep ∉ a →
    takeTok sep (a ++ r) = (a ++ (takeTok sep r).1, (takeTok sep r).2) := by
  intro a r h
  induction a with
  | nil => rfl
  | cons c t ih =>
    rw [List.mem_cons, not_or] at h
    simp only [List.cons_append, takeTok, if_neg (Ne.symm h.1), ih h.2]

theorem takeTok_append_sep {sep : UInt8} (a r : Bytes) (h : sep ∉ a) : takeTok sep (a ++ sep :: r) = (a, some r) := by
  simp [takeTok_append a _ h, takeTok]

theorem takeTok_no_sep {sep : UInt8} (a : Bytes) (h : sep ∉ a) : takeTok sep a = (a, none) := by
  simpa [takeTok] using takeTok_append a [] h

theorem splitString_sep {sep : UInt8} (k : Nat) {a : Bytes} (r : Bytes) (h : sep ∉ a) :
    splitString sep (k + 1) (a ++ sep :: r) = a :: splitString sep k r := by
  rw [splitString, takeTok_append_sep a r h]

theorem splitString_no_sep {sep : UInt8} (k : Nat) {a : Bytes} (h : sep ∉ a) : splitString sep (k + 1) a = [a] := by
  rw [splitString, takeTok_no_sep a h]

theorem splitString_cases (sep : UInt8) (k : Nat) (s : Bytes) :
    (sep ∉ s ∧ splitString sep (k + 1) s = [s]) ∨
    ∃ a r, sep ∉ a ∧ s = a ++ sep :: r ∧ splitString sep (k + 1) s = a :: splitString sep k r := by
  rcases h : takeTok sep s with ⟨tok, _ | rest⟩
  · obtain ⟨rfl, hn⟩ := takeTok_none h
    exact Or.inl ⟨hn, splitString_no_sep k hn⟩
  · obtain ⟨rfl, hn⟩ := takeTok_some h
    exact Or.inr ⟨tok, rest, hn, rfl, splitString_sep k rest hn⟩

theorem splitString_cons {sep : UInt8} {k : Nat} {s a : Bytes} {l : List Bytes} (h : splitString sep (k + 1) s = a :: l) :
    sep ∉ a ∧ ((s = a ∧ l = []) ∨ ∃ r, s = a ++ sep :: r ∧ splitString sep k r = l) := by
  rcases splitString_cases sep k s with ⟨hn, e⟩ | ⟨_, r, hn, rfl, e⟩ <;> rw [e] at h <;> cases h
  · exact ⟨hn, Or.inl ⟨rfl, rfl⟩⟩
  · exact ⟨hn, Or.inr ⟨r, rfl, rfl⟩⟩

theorem splitString4_iff {sep : UInt8} {s a b c d : Bytes} : splitString sep 4 s = [a, b, c, d] ↔
    sep ∉ a ∧ sep ∉ b ∧ sep ∉ c ∧ sep ∉ d ∧
    (s = a ++ sep :: (b ++ sep :: (c ++ sep :: d)) ∨ ∃ r, s = a ++ sep :: (b ++ sep :: (c ++ sep :: (d ++ sep :: r)))) := by
  constructor
  · intro h
    obtain ⟨ha, ⟨_, h1⟩ | ⟨s1, rfl, h1⟩⟩ := splitString_cons h
    · cases h1
    obtain ⟨hb, ⟨_, h2⟩ | ⟨s2, rfl, h2⟩⟩ := splitString_cons h1
    · cases h2
    obtain ⟨hc, ⟨_, h3⟩ | ⟨s3, rfl, h3⟩⟩ := splitString_cons h2
    · cases h3
    obtain ⟨hd, ⟨rfl, _⟩ | ⟨r, rfl, _⟩⟩ := splitString_cons h3
    · exact ⟨ha, hb, hc, hd, Or.inl rfl⟩
    · exact ⟨ha, hb, hc, hd, Or.inr ⟨r, rfl⟩⟩
  · rintro ⟨ha, hb, hc, hd, rfl | ⟨r, rfl⟩⟩
    · rw [splitString_sep _ _ ha, splitString_sep _ _ hb, splitString_sep _ _ hc, splitString_no_sep _ hd]
    · rw [splitString_sep _ _ ha, splitString_sep _ _ hb, splitString_sep _ _ hc, splitString_sep _ _ hd]; rfl

theorem trimLeft_of_head {c : UInt8} {t : Bytes} (h : isSpace c = false) : trimLeft (c :: t) = c :: t := by
  simp [trimLeft, h]

theorem trimLeft_nil : trimLeft [] = [] := rfl

theorem trim_id_of_ends (s : Bytes) (c d : UInt8) (m : Bytes) (hs : s = c :: (m ++ [d]))
    (hc : isSpace c = false) (hd : isSpace d = false) : trim s = s := by
  subst hs
  simp only [trim, trimRight, trimLeft_of_head hc]
  have : (c :: (m ++ [d])).reverse = d :: (m.reverse ++ [c]) := by simp
  rw [this, trimLeft_of_head hd]
  simp

end Otel
