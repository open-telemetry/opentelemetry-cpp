import OtelVerif.Lemmas.SeriesTable
/-! Store-level invariants of `SyncMetricStorage` + `TemporalMetricStorage` (model `Otel.Series.Store`):
    the three outcomes of a collect as equations, table invariants that reach every output (the cardinality bound), and
    the conservation equation of DESIGN.md Appendix D for an arbitrary additive functional of a table's entries. -/
namespace Otel.Series

variable {K A V : Type} [DecidableEq K]

theorem lookupNat_assignNat {β : Type} (r r' : Nat) (b : β) (u : List (Nat × β)) :
    lookupNat r (assignNat r' b u) = if r = r' then some b else lookupNat r u := by
  induction u with
  | nil => by_cases h : r = r' <;> simp [assignNat, lookupNat, h, eq_comm (a := r')]
  | cons e u ih =>
    unfold assignNat
    by_cases he : e.1 = r'
    · rw [if_pos he]
      by_cases h : r = r' <;> simp [lookupNat, h, he, eq_comm (a := r')]
    · rw [if_neg he]
      by_cases h : r = r'
      · subst h; simp [lookupNat, ih, he]
      · by_cases h2 : e.1 = r <;> simp [lookupNat, h, h2, ih]

omit [DecidableEq K] in
theorem lookup_pushAll (d : Table K A) (n : Nat) : ∀ (u : List (Nat × List (Table K A))) (r : Nat),
    lookupNat r ((List.range n).foldl (fun u col => pushUnreported col d u) u) =
      if r < n then some ((lookupNat r u).getD [] ++ [d]) else lookupNat r u := by
  induction n with
  | zero => intro u r; simp
  | succ n ih =>
    intro u r
    rw [List.range_succ, List.foldl_append]
    simp only [List.foldl_cons, List.foldl_nil]
    rw [pushUnreported, lookupNat_assignNat, ih, ih]
    by_cases h1 : r = n
    · subst h1; simp
    · by_cases h2 : r < n
      · simp [h1, h2, Nat.lt_succ_of_lt h2]
      · simp [h1, h2, show ¬ r < n + 1 by omega]

/-- the stash once the interval table (unless empty) has been handed to every collector -/
def stash (c : Cfg K A V) (s : Store K A) : List (Nat × List (Table K A)) :=
  if s.cur.size = 0 then s.unreported
  else (List.range c.temps.length).foldl (fun u col => pushUnreported col s.cur u) s.unreported

omit [DecidableEq K] in
/-- what reader `r` finds stashed: what was there before and, unless empty, the interval table -/
theorem lookup_stash (c : Cfg K A V) (s : Store K A) {r : Nat} (hr : r < c.temps.length) :
    (lookupNat r (stash c s)).getD [] = (lookupNat r s.unreported).getD [] ++ (if s.cur.size = 0 then [] else [s.cur]) ∧
    ((lookupNat r s.unreported).isSome = true → (lookupNat r (stash c s)).isSome = true) := by
  unfold stash
  split
  · simp
  · rw [lookup_pushAll, if_pos hr]; simp

omit [DecidableEq K] in
/-- any additive quantity of the stashed tables grows by that of the interval table -/
theorem sum_stash {N : Type} [AddCommMonoid N] (c : Cfg K A V) (s : Store K A) (F : Table K A → N)
    (hF : s.cur.size = 0 → F s.cur = 0) {r : Nat} (hr : r < c.temps.length) :
    (((lookupNat r (stash c s)).getD []).map F).sum = (((lookupNat r s.unreported).getD []).map F).sum + F s.cur := by
  rw [(lookup_stash c s hr).1, List.map_append, List.sum_append]
  split
  · rename_i h; simp [hF h]
  · simp

/-- the last report of a cumulative reader, as the list of tables to merge into its next one -/
def lastL (c : Cfg K A V) (s : Store K A) (r : Nat) : List (Table K A) :=
  if c.temps[r]? = some Temporality.cumulative then (lookupNat r s.last).toList else []

/-- what reader `r` is handed when the tables `ts` were stashed for it: their merge, for a cumulative reader merged
    with its last report -/
def mergedFor (c : Cfg K A V) (s : Store K A) (r : Nat) (ts : List (Table K A)) : Table K A :=
  mergeTables c (Table.empty c.limit) (ts ++ lastL c s r)

theorem collect_fast {c : Cfg K A V} {r : Nat} (h : c.temps.length = 1 ∧ c.temps[r]? = some Temporality.delta) (s : Store K A) :
    s.collect c r = ({ s with cur := Table.empty c.limit }, if s.cur.size = 0 then none else some s.cur.entries) := by
  unfold Store.collect
  simp only [if_pos h]
  by_cases hz : s.cur.size = 0 <;> simp only [hz, if_true, if_false]

/-- first half of a collect on the multi-reader path: the interval table (unless empty) goes to every collector's stash -/
def handOut (c : Cfg K A V) (s : Store K A) : Store K A := { s with cur := Table.empty c.limit, unreported := stash c s }

/-- second half: what is stashed for reader `r` is merged, remembered as its last report and handed over -/
def serve (c : Cfg K A V) (s : Store K A) (r : Nat) : Store K A × Option (List (K × A)) :=
  match lookupNat r s.unreported with
  | none => (s, none)
  | some ts =>
    ({ s with unreported := assignNat r [] s.unreported, last := assignNat r (mergedFor c s r ts) s.last },
      some (mergedFor c s r ts).entries)

theorem collect_slow {c : Cfg K A V} {r : Nat} (h : ¬ (c.temps.length = 1 ∧ c.temps[r]? = some Temporality.delta)) (s : Store K A) :
    s.collect c r = serve c (handOut c s) r := by
  -- both sides branch on what is stashed for `r`; nothing stashed: the same store and `none`
  cases hL : lookupNat r (stash c s) <;>
    (unfold stash at hL; unfold Store.collect serve handOut stash; simp only [if_neg h, hL])
  -- something stashed: cumulative or not, with or without a last report, both sides reduce to the same table
  unfold mergedFor lastL
  by_cases hcm : c.temps[r]? = some Temporality.cumulative <;> cases lookupNat r s.last <;>
    simp only [hcm, if_true, if_false, Option.toList, List.append_nil, mergeTables, List.foldl_append]

/-- the new interval table is empty with the configured limit (fix D10a) -/
theorem collect_cur (c : Cfg K A V) (s : Store K A) (r : Nat) : (s.collect c r).1.cur = Table.empty c.limit := by
  by_cases hf : c.temps.length = 1 ∧ c.temps[r]? = some Temporality.delta
  · rw [collect_fast hf]
  · rw [collect_slow hf, serve]; split <;> rfl

/-- the entries `mergeTables` folds in, in the order it does -/
def entriesOf (c : Cfg K A V) (ts : List (Table K A)) : List (K × A) := ts.flatMap fun t => c.iter t.entries

theorem mergeTables_eq (c : Cfg K A V) (m : Table K A) (ts : List (Table K A)) :
    mergeTables c m ts = (entriesOf c ts).foldl (Table.mergeEntry c.ag c.ovf) m :=
  List.foldl_flatMap.symm

omit [DecidableEq K] in
theorem length_entriesOf {c : Cfg K A V} (hiter : ∀ l, (c.iter l).Perm l) (ts : List (Table K A)) :
    (entriesOf c ts).length = (ts.map fun t => t.size).sum := by
  simp only [entriesOf, List.length_flatMap, (hiter _).length_eq, Table.size]

omit [DecidableEq K] in
/-- a keyed measure of all the entries is the sum over the tables, whatever the enumeration order -/
theorem totW_entriesOf {M : Type} [AddCommMonoid M] {c : Cfg K A V} (hiter : ∀ l, (c.iter l).Perm l) (ν : K → A → M)
    (ts : List (Table K A)) : totW ν (entriesOf c ts) = (ts.map fun t => totW ν t.entries).sum := by
  induction ts with
  | nil => rfl
  | cons t ts ih => rw [entriesOf, List.flatMap_cons, totW_append, totW_perm ν (hiter _), ← entriesOf, ih]; rfl

section invariant
variable (c : Cfg K A V) (P : Table K A → Prop) (hstep : ∀ t e, P t → P (t.mergeEntry c.ag c.ovf e))
include hstep

theorem mergeTables_ind (ts : List (Table K A)) (m : Table K A) (hm : P m) : P (mergeTables c m ts) :=
  mergeTables_eq c m ts ▸ List.foldlRecOn _ _ hm fun t ht e _ => hstep t e ht

variable (h0 : P (Table.empty c.limit))
include h0

/-- a predicate that holds of the empty table and is kept by a merge step holds of the table behind whatever a
    collect hands out, if it holds of the interval table -/
theorem collect_out (s : Store K A) (r : Nat) (hcur : P s.cur) (o : List (K × A)) (ho : (s.collect c r).2 = some o) :
    ∃ t, P t ∧ t.entries = o := by
  by_cases hf : c.temps.length = 1 ∧ c.temps[r]? = some Temporality.delta
  · rw [collect_fast hf] at ho
    refine ⟨s.cur, hcur, ?_⟩
    split at ho
    · exact absurd ho (by simp)
    · exact Option.some.inj ho
  · rw [collect_slow hf, serve] at ho
    split at ho
    · exact absurd ho (by simp)
    · exact ⟨_, mergeTables_ind c P hstep _ _ h0, Option.some.inj ho⟩

/-- … hence, if recording keeps it too, of the table behind every output of every history -/
theorem run_out (hrec : ∀ t k v, P t → P (t.record c.ag c.ovf k v)) (ops : List (Op K V)) : ∀ s : Store K A, P s.cur →
    ∀ r o, (r, some o) ∈ (Store.run c s ops).2 → ∃ t, P t ∧ t.entries = o := by
  induction ops with
  | nil => intro s _ r o h; simp [Store.run] at h
  | cons op ops ih =>
    intro s hs r o h
    cases op with
    | record k v => exact ih (s.record c k v) (hrec _ k v hs) r o h
    | collect r' =>
      simp only [Store.run, List.mem_cons, Prod.mk.injEq] at h
      rcases h with ⟨_, h⟩ | h
      · exact collect_out c P hstep h0 s r' (hcur := hs) o h.symm
      · exact ih (s.collect c r').1 (collect_cur c s r' ▸ h0) r o h

end invariant

theorem run_series_le_limit (c : Cfg K A V) (ops : List (Op K V)) : ∀ s : Store K A, s.cur.limit = c.limit → s.cur.Inv c.ovf →
    ∀ r o, (r, some o) ∈ (Store.run c s ops).2 → o.length ≤ max c.limit 1 := by
  intro s hl hi r o h
  -- every table keeps the configured limit and the size invariant
  obtain ⟨t, ⟨htl, hti⟩, rfl⟩ := run_out c (P := fun t => t.limit = c.limit ∧ t.Inv c.ovf)
    (hstep := fun t e h => ⟨(Table.mergeEntry_limit ..).trans h.1, Table.inv_mergeEntry c.ag h.2 e⟩)
    (h0 := ⟨rfl, Table.inv_empty _ _⟩)
    (hrec := fun t k v h => ⟨(Table.record_limit ..).trans h.1, Table.inv_record c.ag h.2 k v⟩) ops s ⟨hl, hi⟩ r o h
  exact htl ▸ hti.size_le

/-- what `collect` hands to the callback is within the limit, and the new interval table is empty with the
    configured limit (fix D10a) -/
theorem collect_spec (c : Cfg K A V) (s : Store K A) (r : Nat) (hl : s.cur.limit = c.limit) (hi : s.cur.Inv c.ovf) :
    (s.collect c r).1.cur = Table.empty c.limit ∧ ∀ o, (s.collect c r).2 = some o → o.length ≤ max c.limit 1 :=
  ⟨collect_cur c s r, fun o h => run_series_le_limit c [Op.collect r] s hl hi r o (by simp [Store.run, h])⟩

section total
variable {M : Type} [AddCommMonoid M]

/-- total of a collect's output (`none`: nothing handed over) -/
def outTotal (μ : A → M) : Option (List (K × A)) → M
  | none => 0
  | some es => tot μ es

/-- `sumT (tot μ)`: the totals of a list of stashed interval tables -/
def tablesTotal (μ : A → M) (ts : List (Table K A)) : M := (ts.map fun t => tot μ t.entries).sum

/-- **the specification of the totals**, written from the property text: walk the history keeping, per reader, the sum
    of the weights `w key value` of everything recorded since that reader's previous collect (`pend`) and the sum of everything recorded so far
    (`all`); a delta reader's collect must report `pend r` (and starts a new interval), a cumulative reader's `all`. -/
def specTotals (c : Cfg K A V) (w : K → V → M) : (Nat → M) → M → List (Op K V) → List (Nat × M)
  | _, _, [] => []
  | pend, all, Op.record k v :: ops => specTotals c w (fun r => pend r + w k v) (all + w k v) ops
  | pend, all, Op.collect r :: ops =>
    (r, if c.temps[r]? = some Temporality.delta then pend r else all) ::
      specTotals c w (fun r' => if r' = r then 0 else pend r') all ops

omit [DecidableEq K] in
/-- the specification looks at a configuration's readers only -/
theorem specTotals_temps {B : Type} (c : Cfg K A V) (c' : Cfg K B V) (h : c'.temps = c.temps) (w : K → V → M)
    (pend : Nat → M) (all : M) (ops : List (Op K V)) : specTotals c' w pend all ops = specTotals c w pend all ops := by
  induction ops generalizing pend all with
  | nil => rfl
  | cons op ops ih => cases op <;> simp [specTotals, ih, h]

variable (c : Cfg K A V)

/-- a single delta reader: `buildMetrics` takes the fast path -/
def Fast : Prop := c.temps.length = 1 ∧ c.temps[0]? = some Temporality.delta

omit [DecidableEq K] in
theorem fast_iff {r : Nat} (hr : r < c.temps.length) :
    (c.temps.length = 1 ∧ c.temps[r]? = some Temporality.delta) ↔ Fast c := by
  unfold Fast
  constructor <;> rintro ⟨h1, h2⟩ <;> obtain rfl : r = 0 := by omega
  · exact ⟨h1, h2⟩
  · exact ⟨h1, h2⟩

omit [DecidableEq K] in
theorem cumulative_of_not_delta {r : Nat} (hr : r < c.temps.length) (hd : c.temps[r]? ≠ some Temporality.delta) :
    c.temps[r]? = some Temporality.cumulative := by
  rw [List.getElem?_eq_getElem hr] at hd ⊢
  cases hx : c.temps[r] with
  | delta => rw [hx] at hd; exact absurd rfl hd
  | cumulative => rfl

variable (T : List (K × A) → M)

/-- `T` summed over stashed tables -/
def sumT (ts : List (Table K A)) : M := (ts.map fun t => T t.entries).sum

omit [DecidableEq K] in
theorem sumT_append (ts ts' : List (Table K A)) : sumT T (ts ++ ts') = sumT T ts + sumT T ts' := by
  simp [sumT]

/-- `T` of reader `r`'s last report -/
def lastT (s : Store K A) (r : Nat) : M :=
  match lookupNat r s.last with
  | some t => T t.entries
  | none => 0

/-- reader `r`'s part of the invariant: what it has been given, what is stashed for it and what is in the interval
    table add up to `p` (delta: since its previous collect) resp. `all` (cumulative) -/
def RInv (s : Store K A) (p all : M) (r : Nat) : Prop :=
  ((lookupNat r s.last).isSome = true → (lookupNat r s.unreported).isSome = true) ∧
  (c.temps[r]? = some Temporality.delta → sumT T ((lookupNat r s.unreported).getD []) + T s.cur.entries = p) ∧
  (c.temps[r]? ≠ some Temporality.delta → lastT T s r + sumT T ((lookupNat r s.unreported).getD []) + T s.cur.entries = all)

/-- the invariant tying the store to the ghost totals `pend`, `all` -/
def GInv (s : Store K A) (pend : Nat → M) (all : M) : Prop :=
  (Fast c → T s.cur.entries = pend 0) ∧ (¬ Fast c → ∀ r, r < c.temps.length → RInv c T s (pend r) all r)

variable {c T}

omit [DecidableEq K] in
theorem ginv_init (hT0 : T [] = 0) : GInv c T (Store.init c) (fun _ => 0) 0 :=
  ⟨fun _ => hT0, fun _ r _ => ⟨fun h => h, fun _ => by simp [Store.init, lookupNat, sumT, Table.empty, hT0],
    fun _ => by simp [Store.init, lookupNat, sumT, lastT, Table.empty, hT0]⟩⟩

theorem ginv_record {s : Store K A} {pend : Nat → M} {all : M} (h : GInv c T s pend all) (k : K) (v : V) {δ : M}
    (hδ : T (s.cur.record c.ag c.ovf k v).entries = T s.cur.entries + δ) :
    GInv c T (s.record c k v) (fun r => pend r + δ) (all + δ) := by
  refine ⟨fun hf => hδ.trans (congrArg (· + δ) (h.1 hf)), fun hf r hr => ?_⟩
  obtain ⟨ha, hb, hc⟩ := h.2 hf r hr
  refine ⟨ha, fun hd => ?_, fun hd => ?_⟩
  · show sumT T ((lookupNat r s.unreported).getD []) + T (s.cur.record c.ag c.ovf k v).entries = pend r + δ
    rw [hδ, ← add_assoc, hb hd]
  · show lastT T s r + sumT T ((lookupNat r s.unreported).getD []) + T (s.cur.record c.ag c.ovf k v).entries = all + δ
    rw [hδ, ← add_assoc, hc hd]

omit [DecidableEq K] in
theorem RInv.congr_pend {s : Store K A} {p p' all : M} {r : Nat} (h : RInv c T s p all r)
    (hp : c.temps[r]? = some Temporality.delta → p = p') : RInv c T s p' all r :=
  ⟨h.1, fun hd => hp hd ▸ h.2.1 hd, h.2.2⟩

omit [DecidableEq K] in
/-- handing out the interval table changes no reader's equations: it has only moved into the stashes -/
theorem RInv.handOut (hT0 : T [] = 0) {s : Store K A} {p all : M} {r : Nat} (h : RInv c T s p all r) (hr : r < c.temps.length) :
    RInv c T (handOut c s) p all r := by
  have hsum : sumT T ((lookupNat r (stash c s)).getD []) = sumT T ((lookupNat r s.unreported).getD []) + T s.cur.entries :=
    sum_stash c s (fun t => T t.entries) (fun hz => by rw [List.eq_nil_of_length_eq_zero hz, hT0]) hr
  obtain ⟨ha, hb, hc⟩ := h
  refine ⟨fun hs => (lookup_stash c s hr).2 (ha hs), fun hd => ?_, fun hd => ?_⟩
  · show sumT T ((lookupNat r (stash c s)).getD []) + T [] = p
    rw [hT0, add_zero, hsum]; exact hb hd
  · show lastT T s r + sumT T ((lookupNat r (stash c s)).getD []) + T [] = all
    rw [hT0, add_zero, hsum, ← add_assoc]; exact hc hd

/-- serving reader `r` from an empty interval table: `T` of what is handed over is what the specification demands, and
    only `r`'s equations change — provided the merge performed for it conserves `T` -/
theorem ginv_serve (hT0 : T [] = 0) {s : Store K A} (hcur : s.cur.entries = []) {pend : Nat → M} {all : M}
    (h : ∀ r, r < c.temps.length → RInv c T s (pend r) all r) (r : Nat) (hr : r < c.temps.length)
    (hm : ∀ ts, lookupNat r s.unreported = some ts → T (mergedFor c s r ts).entries = sumT T (ts ++ lastL c s r)) :
    (match (serve c s r).2 with | none => 0 | some es => T es) =
      (if c.temps[r]? = some Temporality.delta then pend r else all) ∧
    ∀ r', r' < c.temps.length → RInv c T (serve c s r).1 (if r' = r then 0 else pend r') all r' := by
  obtain ⟨ha, hb, hc⟩ := h r hr
  rw [hcur, hT0, add_zero] at hb hc
  unfold serve
  cases hL : lookupNat r s.unreported with
  | none =>
    -- nothing was ever stashed for this reader, so nothing was reported to it and nothing is pending
    rw [hL] at hb hc
    have hl0 : lastT T s r = 0 := by
      unfold lastT
      cases hx : lookupNat r s.last with
      | none => rfl
      | some t => have := ha (by simp [hx]); rw [hL] at this; exact absurd this (by simp)
    refine ⟨?_, fun r' hr' => (h r' hr').congr_pend fun hd => ?_⟩
    · show 0 = _
      split
      · exact hb ‹_›
      · rw [← hc ‹_›, hl0, zero_add]; rfl
    · split
      · rename_i hrr
        rw [hrr] at hd ⊢
        exact (hb hd).symm
      · rfl
  | some ts =>
    rw [hL, Option.getD_some] at hb hc
    have hout : T (mergedFor c s r ts).entries = if c.temps[r]? = some Temporality.delta then pend r else all := by
      rw [hm ts hL, sumT_append, lastL]
      by_cases hd : c.temps[r]? = some Temporality.delta
      · rw [if_pos hd, if_neg (by rw [hd]; simp), show sumT T ([] : List (Table K A)) = 0 from rfl, add_zero]
        exact hb hd
      · rw [if_neg hd, if_pos (cumulative_of_not_delta c hr hd), ← hc hd, lastT, add_comm]
        -- `sumT` of the last report as a list (empty or one table) is `lastT`
        cases lookupNat r s.last <;> simp [sumT]
    refine ⟨hout, fun r' hr' => ?_⟩
    by_cases hrr : r' = r
    · rw [hrr, if_pos rfl]
      -- `r` has nothing stashed any more and the interval table is empty; its last report is the merge
      refine ⟨fun _ => by simp [lookupNat_assignNat], fun _ => by simp [lookupNat_assignNat, sumT, hT0, hcur], fun hd => ?_⟩
      simp only [lastT, lookupNat_assignNat, if_true, Option.getD_some, sumT, List.map_nil, List.sum_nil, hcur, hT0, add_zero]
      rw [hout, if_neg hd]
    · -- another reader: neither its stash nor its last report is touched
      rw [if_neg hrr]
      have := h r' hr'
      simpa only [RInv, lastT, lookupNat_assignNat, if_neg hrr] using this

/-- one collect: `T` of what is handed over is what the specification demands, and the invariant is re-established —
    provided the merges performed for this reader conserve `T` -/
theorem ginv_collect (hT0 : T [] = 0) {s : Store K A} {pend : Nat → M} {all : M} (h : GInv c T s pend all)
    (r : Nat) (hr : r < c.temps.length)
    (hm : ¬ Fast c → ∀ ts, lookupNat r (stash c s) = some ts →
      T (mergedFor c s r ts).entries = sumT T (ts ++ lastL c s r)) :
    (match (s.collect c r).2 with | none => 0 | some es => T es) =
      (if c.temps[r]? = some Temporality.delta then pend r else all) ∧
    GInv c T (s.collect c r).1 (fun r' => if r' = r then 0 else pend r') all := by
  by_cases hf : Fast c
  · -- single delta reader: the interval table itself is handed over
    rw [collect_fast ((fast_iff c hr).mpr hf)]
    obtain rfl : r = 0 := by have := hf.1; omega
    rw [if_pos hf.2]
    refine ⟨?_, fun _ => hT0.trans (if_pos rfl).symm, fun hnf => absurd hf hnf⟩
    rw [← h.1 hf]
    by_cases hz : s.cur.size = 0
    · rw [if_pos hz, List.eq_nil_of_length_eq_zero hz, hT0]
    · rw [if_neg hz]
  · rw [collect_slow fun hh => hf ((fast_iff c hr).mp hh)]
    have := ginv_serve hT0 (s := handOut c s) rfl (fun r' hr' => (h.2 hf r' hr').handOut hT0 hr') r hr (hm hf)
    exact ⟨this.1, fun hff => absurd hff hf, fun _ => this.2⟩

variable (c) (ms : Measure c.ag M)

theorem tot_foldl_mergeEntry (l : List (K × A)) : ∀ m : Table K A,
    tot ms.μ (l.foldl (Table.mergeEntry c.ag c.ovf) m).entries = tot ms.μ m.entries + tot ms.μ l := by
  induction l with
  | nil => exact fun m => (add_zero _).symm
  | cons e l ih => intro m; rw [List.foldl_cons, ih, Table.tot_mergeEntry, add_assoc]; rfl

theorem tot_mergeTables (hiter : ∀ l, (c.iter l).Perm l) (ts : List (Table K A)) (m : Table K A) :
    tot ms.μ (mergeTables c m ts).entries = tot ms.μ m.entries + tablesTotal ms.μ ts := by
  rw [mergeTables_eq, tot_foldl_mergeEntry, tot_eq_totW ms.μ (entriesOf c ts), totW_entriesOf hiter]; rfl

/-- what is stashed for reader `r`, in total: `sumT (tot μ)` of its stash -/
def pendU (μ : A → M) (s : Store K A) (r : Nat) : M := tablesTotal μ ((lookupNat r s.unreported).getD [])

/-- `lastT (tot μ)` -/
def lastTot (μ : A → M) (s : Store K A) (r : Nat) : M :=
  match lookupNat r s.last with
  | some t => tot μ t.entries
  | none => 0

/-- `GInv` for the functional `tot ms.μ`, written out (`sinv_iff`) -/
def SInv (s : Store K A) (pend : Nat → M) (all : M) : Prop :=
  (Fast c → tot ms.μ s.cur.entries = pend 0) ∧
  (¬ Fast c → ∀ r, r < c.temps.length →
    ((lookupNat r s.last).isSome = true → (lookupNat r s.unreported).isSome = true) ∧
    (c.temps[r]? = some Temporality.delta → pendU ms.μ s r + tot ms.μ s.cur.entries = pend r) ∧
    (c.temps[r]? ≠ some Temporality.delta → lastTot ms.μ s r + pendU ms.μ s r + tot ms.μ s.cur.entries = all))

omit [DecidableEq K] in
theorem sinv_iff {s : Store K A} {pend : Nat → M} {all : M} : SInv c ms s pend all ↔ GInv c (tot ms.μ) s pend all := Iff.rfl

theorem sinv_init : SInv c ms (Store.init c) (fun _ => 0) 0 := (sinv_iff c ms).mpr (ginv_init (tot_nil ms.μ))

theorem sinv_record {s : Store K A} {pend : Nat → M} {all : M} (h : SInv c ms s pend all) (k : K) (v : V) :
    SInv c ms (s.record c k v) (fun r => pend r + ms.w v) (all + ms.w v) :=
  (sinv_iff c ms).mpr (ginv_record ((sinv_iff c ms).mp h) k v (Table.tot_record ms c.ovf s.cur k v))

/-- one collect: the total handed over is what the specification demands, and the invariant is re-established -/
theorem sinv_collect (hiter : ∀ l, (c.iter l).Perm l) {s : Store K A} {pend : Nat → M} {all : M}
    (h : SInv c ms s pend all) (r : Nat) (hr : r < c.temps.length) :
    outTotal ms.μ (s.collect c r).2 = (if c.temps[r]? = some Temporality.delta then pend r else all) ∧
    SInv c ms (s.collect c r).1 (fun r' => if r' = r then 0 else pend r') all := by
  have := ginv_collect (tot_nil ms.μ) ((sinv_iff c ms).mp h) r hr fun _ ts _ => by
    rw [mergedFor, tot_mergeTables c ms hiter]
    exact zero_add _  -- the merge starts from the empty table, whose total is `0`
  refine ⟨?_, (sinv_iff c ms).mpr this.2⟩
  -- `outTotal ms.μ` is the `match` of `ginv_collect` for `T := tot ms.μ`
  rw [← this.1]; cases (s.collect c r).2 <;> rfl

/-- **conservation**: for every history the totals handed to the readers are exactly those of the specification -/
theorem run_totals (hiter : ∀ l, (c.iter l).Perm l) (ops : List (Op K V)) :
    ∀ (s : Store K A) (pend : Nat → M) (all : M), SInv c ms s pend all →
      (∀ r, Op.collect r ∈ ops → r < c.temps.length) →
      ((Store.run c s ops).2.map fun o => (o.1, outTotal ms.μ o.2)) = specTotals c (fun _ => ms.w) pend all ops := by
  induction ops with
  | nil => intro s pend all _ _; simp [Store.run, specTotals]
  | cons op ops ih =>
    intro s pend all h hops
    cases op with
    | record k v =>
      simp only [Store.run, specTotals]
      exact ih _ _ _ (sinv_record c ms h k v) fun r hr => hops r (List.mem_cons_of_mem _ hr)
    | collect r =>
      have hr := hops r (List.mem_cons_self ..)
      obtain ⟨ho, hi⟩ := sinv_collect c ms hiter h r hr
      simp only [Store.run, specTotals, List.map_cons]
      rw [ho, ih _ _ _ hi fun r' hr' => hops r' (List.mem_cons_of_mem _ hr')]

theorem run_totals_init (hiter : ∀ l, (c.iter l).Perm l) (ops : List (Op K V)) (hops : ∀ r, Op.collect r ∈ ops → r < c.temps.length) :
    ((Store.run c (Store.init c) ops).2.map fun o => (o.1, outTotal ms.μ o.2)) = specTotals c (fun _ => ms.w) (fun _ => 0) 0 ops :=
  run_totals c ms hiter ops _ _ _ (sinv_init c ms) hops

end total
end Otel.Series
