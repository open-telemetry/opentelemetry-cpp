import OtelVerif.Lemmas.ReaderSteps
import OtelVerif.Lemmas.Run
/-! The transitions of the `ForceFlush` and `Shutdown` callers, the invariant along every step and every run, and the
refinement map (`astep` only takes protocol steps). -/
namespace Otel.Reader
open Otel.Ring (upd upd_same upd_other)

/-- a `ForceFlush` caller's moves other than taking the ticket: from one program point to the next, nothing else changes -/
inductive FNext (s : St) : FPc → FPc → Prop
  | begin : FNext s .idle (.ticket s.recorded)
  | look (bh cur : Nat) (seen : Option Nat) : FNext s (.wait bh cur seen) (.wait bh cur (some s.notified))
  | giveUp (bh cur : Nat) (seen : Option Nat) : FNext s (.wait bh cur seen) (.ret bh false)
  | toExporter (bh cur : Nat) (seen : Option Nat) : FNext s (.wait bh cur seen) (.xfE bh cur)
  | flushed (bh cur : Nat) (xok : Bool) : FNext s (.xfE bh cur) (.after bh cur xok none)
  | lastLook (bh cur : Nat) (ok : Bool) (seen : Option Nat) : FNext s (.after bh cur ok seen) (.after bh cur ok (some s.notified))
  | failed (bh cur : Nat) (seen : Option Nat) : FNext s (.after bh cur false seen) (.ret bh false)
  | ret (bh cur v : Nat) : FNext s (.after bh cur true (some v)) (.ret bh (decide (v ≥ cur)))

theorem fStep_cases {s s' : St} {f c : Nat} {x : Bool} (h : step s (.fStep f c x) = some s') :
    (∃ bh, s.fl f = .ticket bh ∧ s' = { s with pending := s.pending + 1, tickRec := upd s.tickRec (s.pending + 1) s.recorded,
                                                fl := upd s.fl f (.wait bh (s.pending + 1) none) }) ∨
    (∃ v, FNext s (s.fl f) v ∧ s' = { s with fl := upd s.fl f v }) := by
  simp only [step, fStep] at h
  split at h
  · next hpc => cases h; exact .inr ⟨_, hpc ▸ .begin, rfl⟩
  · next bh hpc => cases h; exact .inl ⟨bh, hpc, rfl⟩
  · next bh cur seen hpc =>
    split at h
    · cases h; exact .inr ⟨_, hpc ▸ .look bh cur seen, rfl⟩
    · split at h
      · cases h; exact .inr ⟨_, hpc ▸ .giveUp bh cur seen, rfl⟩
      · cases h; exact .inr ⟨_, hpc ▸ .toExporter bh cur seen, rfl⟩
  · next bh cur hpc => cases h; exact .inr ⟨_, hpc ▸ .flushed bh cur x, rfl⟩
  · next bh cur ok seen hpc =>
    split at h
    · cases h; exact .inr ⟨_, hpc ▸ .lastLook bh cur ok seen, rfl⟩
    · split at h
      · next hok => cases h; subst hok; exact .inr ⟨_, hpc ▸ .failed bh cur seen, rfl⟩
      · next hok =>
        split at h
        · next v =>
          cases h
          obtain rfl : ok = true := by cases ok; exact absurd rfl hok; rfl
          exact .inr ⟨_, hpc ▸ .ret bh cur v, rfl⟩
        · cases h
  · cases h

/-- a step of a `ForceFlush` caller touches only its own program counter and, when it takes a ticket, `pending` and
    `tickRec`: what is left to show is the caller's own invariant (`hv`) and, for a ticket, that the old tickets keep their
    records (`htick`) and the new one fits in (`hle`, `hmono`) -/
theorem inv_flocal {s : St} {f p : Nat} {tr : Nat → Nat} {v : FPc} (hI : Inv s)
    (hv : FInv { s with pending := p, tickRec := tr, fl := upd s.fl f v } f)
    (hpend : s.pending ≤ p := by exact Nat.le_refl _)
    (htick : ∀ t, 1 ≤ t → t ≤ s.pending → tr t = s.tickRec t := by intros; rfl)
    (hle : ∀ t, 1 ≤ t → t ≤ p → tr t ≤ s.recorded := by exact hI.tickLe)
    (hmono : ∀ t u, 1 ≤ t → t ≤ u → u ≤ p → tr t ≤ tr u := by exact hI.tickMono) :
    Inv { s with pending := p, tickRec := tr, fl := upd s.fl f v } := by
  refine ⟨Nat.le_trans hI.notLe hpend, hI.covLe, hI.cycLe, hle, hmono, ?_, ?_, ?_, ?_, hI.joinedD, hI.retd, hI.late⟩
  · intro t h1 (h2 : t ≤ s.notified)
    show tr t ≤ s.covered ∨ s.skipped = true
    rw [htick t h1 (Nat.le_trans h2 hI.notLe)]; exact hI.ticks t h1 h2
  · exact WInv_frame hI.w (hpend := hpend) (htick := htick)
  · intro g
    by_cases hg : g = f
    · subst hg; exact hv
    · exact FInv_frame g (hI.f g) (hfl := upd_other _ _ _ _ hg) (hpend := hpend) (htick := htick)
  · intro i; exact SInv_frame i (hI.sd i)

theorem inv_fStep (s s' : St) (f c : Nat) (x : Bool) (hI : Inv s) (h : step s (.fStep f c x) = some s') : Inv s' := by
  have hf := hI.f f
  rcases fStep_cases h with ⟨bh, hpc, rfl⟩ | ⟨v, hn, rfl⟩
  · -- the ticket: `pending + 1` is new, and `recorded` now is at least what it was for any earlier ticket
    simp only [FInv, hpc] at hf
    have hk : ∀ t, 1 ≤ t → t ≤ s.pending → upd s.tickRec (s.pending + 1) s.recorded t = s.tickRec t := by
      intro t _ ht; exact upd_other _ _ _ _ (by omega)
    have hnew : upd s.tickRec (s.pending + 1) s.recorded (s.pending + 1) = s.recorded := upd_same ..
    have hle : ∀ t, 1 ≤ t → t ≤ s.pending + 1 → upd s.tickRec (s.pending + 1) s.recorded t ≤ s.recorded := by
      intro t h1 h2
      by_cases ht : t = s.pending + 1
      · rw [ht, hnew]; exact Nat.le_refl _
      · rw [hk t h1 (by omega)]; exact hI.tickLe t h1 (by omega)
    refine inv_flocal hI ?_ (hpend := Nat.le_succ _) (htick := hk) (hle := hle) (hmono := fun t u h1 h2 h3 => ?_)
    · simp only [FInv, upd_same]
      exact ⟨by omega, Nat.le_refl _, hf, fun v hv => by cases hv⟩
    · by_cases hu : u = s.pending + 1
      · rw [hu, hnew]; exact hle t h1 (by omega)
      · rw [hk t h1 (by omega), hk u (by omega) (by omega)]; exact hI.tickMono t u h1 h2 (by omega)
  · refine inv_flocal hI ?_
    generalize hpc : s.fl f = pc at hn
    simp only [FInv, hpc] at hf
    simp only [FInv, upd_same]
    cases hn with
    | begin => exact Nat.le_refl _
    | look bh cur seen | lastLook bh cur _ seen =>
      obtain ⟨h1, hle, hbh, _⟩ := hf
      exact ⟨h1, hle, hbh, fun v hv => by cases hv; exact Nat.le_refl _⟩
    | giveUp bh cur seen => intro hok; cases hok
    | toExporter bh cur seen => exact ⟨hf.1, hf.2.1, hf.2.2.1⟩
    | flushed bh cur xok => exact ⟨hf.1, hf.2.1, hf.2.2, fun v hv => by cases hv⟩
    | failed bh cur seen => intro hok; cases hok
    | ret bh cur v =>
      -- the caller saw `notified ≥ cur`: its ticket, issued after the call began, has been served
      obtain ⟨f1, f2, f3, f4⟩ := hf
      intro hge
      have hge : v ≥ cur := of_decide_eq_true hge
      have hv := f4 v rfl
      rcases hI.ticks cur f1 (by omega) with hc | hc
      · left; omega
      · right; exact hc

inductive STr (s : St) (i : Nat) : St → Prop
  | begin (hpc : s.sd i = .idle) : STr s i { s with sd := upd s.sd i .begin }
  | set (hpc : s.sd i = .begin) : STr s i { s with shutdown := true, sd := upd s.sd i .set }
  | joined (hpc : s.sd i = .set) (hj : s.joined = true) : STr s i { s with sd := upd s.sd i .xsB }
  | join (hpc : s.sd i = .set) (hd : s.wpc = .done) : STr s i { s with joined := true, sd := upd s.sd i .xsB }
  | xshutdown (hpc : s.sd i = .xsB) : STr s i { s with xshutdowns := s.xshutdowns + 1, sd := upd s.sd i .xsE }
  | ret (hpc : s.sd i = .xsE) : STr s i { s with sdReturned := true, sd := upd s.sd i .ret }

theorem str_of_sStep {s s' : St} {i : Nat} (h : step s (.sStep i) = some s') : STr s i s' := by
  simp only [step, sStep] at h
  split at h
  · next hpc => cases h; exact .begin hpc
  · next hpc => cases h; exact .set hpc
  · next hpc =>
    split at h
    · next hj => cases h; exact .joined hpc hj
    · split at h
      · next hd => cases h; exact .join hpc hd
      · cases h
  · next hpc => cases h; exact .xshutdown hpc
  · next hpc => cases h; exact .ret hpc
  · cases h

/-- a step of a `Shutdown` caller touches only its own program counter, `shutdown`, `joined`, `sdReturned` and the count of
    exporter `Shutdown`s: what is left to show is the caller's own invariant (`hv`) and, for the flags that move (by default
    none does), the fact about that flag -/
theorem inv_slocal {s : St} {i : Nat} (hI : Inv s) {sh j r : Bool} {x : Nat} {v : SPc}
    (hv : SInv { s with shutdown := sh, joined := j, sdReturned := r, xshutdowns := x, sd := upd s.sd i v } i)
    (hshut : s.shutdown = true → sh = true := by exact id) (hjoin : s.joined = true → j = true := by exact id)
    (hdone : j = true → s.wpc = .done := by exact hI.joinedD) (hret : r = true → j = true := by exact hI.retd) :
    Inv { s with shutdown := sh, joined := j, sdReturned := r, xshutdowns := x, sd := upd s.sd i v } := by
  refine ⟨hI.notLe, hI.covLe, hI.cycLe, hI.tickLe, hI.tickMono, hI.ticks, ?_, ?_, ?_, hdone, hret, hI.late⟩
  · exact WInv_frame hI.w (hshut := hshut)
  · intro f; exact FInv_frame f (hI.f f)
  · intro k
    by_cases hk : k = i
    · subst hk; exact hv
    · exact SInv_frame k (hI.sd k) (hsd := upd_other _ _ _ _ hk) (hshut := hshut) (hjoin := hjoin)

theorem inv_str {s s' : St} {i : Nat} (hI : Inv s) (h : STr s i s') : Inv s' := by
  have hs := hI.sd i
  cases h with
  | begin hpc => exact inv_slocal hI (by simp [SInv])
  | set hpc => exact inv_slocal hI (by simp [SInv]) (hshut := fun _ => rfl)
  | joined hpc hj => exact inv_slocal hI (by simp [SInv, hj])
  | join hpc hd => exact inv_slocal hI (by simp [SInv]) (hjoin := fun _ => rfl) (hdone := fun _ => hd) (hret := fun _ => rfl)
  | xshutdown hpc =>
    simp only [SInv, hpc] at hs
    exact inv_slocal hI (by simp [SInv, hs])
  | ret hpc =>
    simp only [SInv, hpc] at hs
    exact inv_slocal hI (by simp [SInv, hs]) (hret := fun _ => hs)

theorem inv_step (s s' : St) (a : Act) (hI : Inv s) (h : step s a = some s') : Inv s' := by
  cases a with
  | record => simp only [step] at h; cases h; exact inv_record s hI
  | wStep t => exact inv_wtr hI (wtr_of_wStep h)
  | wWake => exact inv_wtr hI (wtr_of_wWake h)
  | cStep => exact inv_ctr hI (ctr_of_cStep h)
  | fStep f c x => exact inv_fStep s s' f c x hI h
  | sStep i => exact inv_str hI (str_of_sStep h)

theorem run_nil (s : St) : run s [] = some s := rfl

theorem run_cons (s : St) (a : Act) (as : List Act) : run s (a :: as) = (step s a).bind (run · as) := by
  simp only [run]; cases step s a <;> rfl

theorem inv_run (s s' : St) (as : List Act) (hI : Inv s) (h : run s as = some s') : Inv s' :=
  Run.ind run_nil run_cons inv_step as s s' hI h

theorem reachable_inv (as : List Act) (s : St) (h : run init as = some s) : Inv s := inv_run _ _ as inv_init h

def Steps (s s' : St) : Prop := s' = s ∨ (∃ a, step s a = some s') ∨ (∃ a b s1, step s a = some s1 ∧ step s1 b = some s')

theorem steps_inv {s s' : St} (hI : Inv s) (h : Steps s s') : Inv s' := by
  rcases h with rfl | ⟨a, ha⟩ | ⟨a, b, s1, ha, hb⟩
  · exact hI
  · exact inv_step _ _ a hI ha
  · exact inv_step _ _ b (inv_step _ _ a hI ha) hb

theorem guardEq_some {c : Bool} {o : Option St} {s' : St} (h : guardEq c o = some s') : o = some s' := by
  unfold guardEq at h; split at h
  · exact h
  · cases h

/-- an event that the model takes as a stutter -/
theorem Steps.zero {s s' : St} (h : some s = some s') : Steps s s' := Or.inl (Option.some.inj h).symm

theorem Steps.one {s s' : St} {a : Act} (h : step s a = some s') : Steps s s' := Or.inr (Or.inl ⟨a, h⟩)

theorem Steps.two {s s' : St} {a b : Act} (h : (step s a).bind (fun s1 => step s1 b) = some s') : Steps s s' := by
  cases h1 : step s a with
  | none => rw [h1] at h; cases h
  | some s1 => rw [h1] at h; exact Or.inr (Or.inr ⟨a, b, s1, h1, h⟩)

/-! One lemma per role; after `split`, one line per row of the role's table in `Model/ReaderRefine.lean`, in the order of
    the table. -/

theorem aWorker_steps {s s' : St} {e : Ev} (h : aWorker s e = some s') : Steps s s' := by
  unfold aWorker at h
  split at h
  · exact .one (guardEq_some h)             -- start, `pend`
  · exact .one h                            -- spawn, `spawn`
  · exact .one h                            -- waitF, `cancel`: the export timeout
  · exact .two h                            -- waitF, `joinc`: the future was ready, then the join
  · exact .one h                            -- joinC, `joinc`
  · exact .one (guardEq_some h)             -- pubLd, `not`
  · exact .one (guardEq_some h)             -- pubCas, `cas`
  · exact .two (guardEq_some h)             -- cvwait, `loop`: the wake-up, then the loop test
  · exact .zero h                           -- done, `end`
  · cases h

theorem aCollect_steps {s s' : St} {e : Ev} (h : aCollect s e = some s') : Steps s s' := by
  unfold aCollect at h
  split at h
  · exact .one (guardEq_some h)             -- produce, `prod`
  · exact .one (guardEq_some h)             -- cancelChk, `cancel`
  · exact .one (guardEq_some h)             -- exportB, `expb`
  · exact .one h                            -- exportE, `expe`
  · exact .zero h                           -- fin, `end`
  · cases h

theorem aFlush_steps {s s' : St} {f : Nat} {e : Ev} (h : aFlush s f e = some s') : Steps s s' := by
  unfold aFlush at h
  split at h
  · exact .one (guardEq_some h)             -- idle, `beg`
  · exact .one (guardEq_some h)             -- ticket, `fadd`
  · exact .one (guardEq_some h)             -- wait, `not`
  · exact .one h                            -- wait, `xfb`
  · exact .one (guardEq_some h)             -- wait, `ret`
  · exact .one h                            -- xfE, `xfe`
  · exact .one (guardEq_some h)             -- after, `not`
  · -- after, `ret`: one step, then a check on the result that changes nothing
    cases h1 : step s (.fStep f 1 false) with
    | none => rw [h1] at h; cases h
    | some s1 =>
      rw [h1] at h
      simp only [Option.bind] at h
      split at h
      · cases guardEq_some h; exact .one h1
      · cases h
  · cases h

theorem aShut_steps {s s' : St} {i : Nat} {e : Ev} (h : aShut s i e = some s') : Steps s s' := by
  unfold aShut at h
  split at h
  · exact .one h                            -- idle, `beg`
  · exact .one h                            -- begin, `set`
  · exact .one (guardEq_some h)             -- set, `join`
  · exact .two (guardEq_some h)             -- set, `xsb`: not joinable any more, then the exporter's Shutdown begins
  · exact .one h                            -- xsB, `xsb`
  · exact .one h                            -- xsE, `xse`
  · exact .zero h                           -- ret, `ret`
  · cases h

theorem astep_steps (s s' : St) (e : Ev) (h : astep s e = some s') : Steps s s' := by
  unfold astep at h
  split at h
  · exact aWorker_steps h
  · exact aCollect_steps h
  · split at h                              -- a recorder: `rec`
    · exact .one (guardEq_some h)
    · cases h
  · exact aFlush_steps h
  · exact aShut_steps h

theorem inv_astep (s s' : St) (e : Ev) (hI : Inv s) (h : astep s e = some s') : Inv s' := steps_inv hI (astep_steps s s' e h)

end Otel.Reader
