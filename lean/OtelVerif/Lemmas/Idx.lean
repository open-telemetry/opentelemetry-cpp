import OtelVerif.Model.Idx
import OtelVerif.Lemmas.Bytes
/-! The index-explicit `SplitString` / `HexToBinary` of `Model/Idx.lean` never leave their buffers and compute
    exactly the list functions `Otel.splitString` / `Otel.hexToBinary`. -/
namespace Otel
namespace Idx

theorem rd_at (pre : Bytes) (c : UInt8) (rest : Bytes) : rd (pre ++ c :: rest) pre.length = .ok c := by
  simp [rd]

theorem rd_at' (pre : Bytes) (c : UInt8) (rest : Bytes) (i : Nat) (h : i = pre.length) : rd (pre ++ c :: rest) i = .ok c := by
  subst h; exact rd_at pre c rest

theorem substr_mid (pre cur rest : Bytes) : substr (pre ++ cur ++ rest) pre.length cur.length = .ok cur := by
  have h1 : ¬ pre.length > (pre ++ cur ++ rest).length := by
    rw [List.length_append, List.length_append]; omega
  have h2 : min cur.length ((pre ++ cur ++ rest).length - pre.length) = cur.length := by
    rw [List.length_append, List.length_append]; omega
  unfold substr
  rw [if_neg h1, h2, List.append_assoc, List.drop_left, List.take_left]

theorem substrFrom_end (pre cur : Bytes) : substrFrom (pre ++ cur) pre.length = .ok cur := by
  have h1 : ¬ pre.length > (pre ++ cur).length := by simp
  unfold substrFrom
  rw [if_neg h1, List.drop_left]

theorem wr_at (A : Bytes) (x v : UInt8) (B : Bytes) : wr (A ++ x :: B) (A.length : Int) v = .ok (A ++ v :: B) := by
  have h : (0 : Int) ≤ (A.length : Int) ∧ (A.length : Int) < ((A ++ x :: B).length : Int) := by
    rw [List.length_append, List.length_cons]; omega
  rw [wr, if_pos h, Int.toNat_natCast, List.set_append_right _ _ (Nat.le_refl _), Nat.sub_self]
  rfl

theorem takeTok_append_of_not_mem {sep : UInt8} : ∀ (cur rest : Bytes), sep ∉ cur →
    takeTok sep (cur ++ rest) = (cur ++ (takeTok sep rest).1, (takeTok sep rest).2) :=
  takeTok_append

/-- loop invariant of `SplitString`: at index `i = |pre| + |cur|` with `token_start = |pre|`, no separator in `cur`,
    `m + 1` entries of `results` still free -/
theorem splitLoop_spec (sep : UInt8) (count : Nat) : ∀ (rest pre cur : Bytes) (acc : List Bytes) (m : Nat) (s : Bytes) (i ts : Nat),
    s = pre ++ cur ++ rest → i = pre.length + cur.length → ts = pre.length → sep ∉ cur → acc.length + (m + 1) = count →
    splitLoop s sep count rest.length i ts acc = .ok (acc ++ Otel.splitString sep (m + 1) (cur ++ rest)) := by
  intro rest
  induction rest with
  | nil =>
    intro pre cur acc m s i ts hs hi hts hcur hacc
    have hlen : ¬ i < s.length := by rw [hs, hi]; simp
    rw [List.append_nil] at hs
    rw [List.append_nil, splitString_no_sep m hcur, List.length_nil, splitLoop, if_neg hlen, splitExit,
      if_pos (by omega), hs, hts, substrFrom_end, IxRes.map_ok]
  | cons c r ih =>
    intro pre cur acc m s i ts hs hi hts hcur hacc
    have hlen : i < s.length := by rw [hs, hi]; simp
    have hrd : rd s i = .ok c := by rw [hs]; exact rd_at' (pre ++ cur) c r _ (by rw [hi]; simp)
    rw [List.length_cons, splitLoop, if_pos hlen, hrd, IxRes.bind_ok]
    by_cases hc : c = sep
    · have hsub : substr s ts (i - ts) = .ok cur := by
        rw [hi, hts, Nat.add_sub_cancel_left, hs]; exact substr_mid pre cur (c :: r)
      rw [if_neg (fun h => h hc), hsub, IxRes.bind_ok, hc, splitString_sep m r hcur]
      cases m with
      | zero =>
        have hfull : (acc ++ [cur]).length = count := by rw [List.length_append]; exact hacc
        simp [hfull, Otel.splitString]
      | succ m =>
        have hfull : ¬ (acc ++ [cur]).length = count := by rw [List.length_append, List.length_singleton]; omega
        rw [if_neg hfull, ih (pre ++ cur ++ [c]) [] (acc ++ [cur]) m s (i + 1) (i + 1)
          (by rw [hs]; simp) (by rw [hi]; simp; omega) (by rw [hi]; simp; omega) (by simp)
          (by rw [List.length_append, List.length_singleton]; omega)]
        simp
    · have hcur' : sep ∉ cur ++ [c] := by
        rw [List.mem_append, List.mem_singleton, not_or]
        exact ⟨hcur, fun e => hc e.symm⟩
      rw [if_pos hc, ih pre (cur ++ [c]) acc m s (i + 1) ts
        (by rw [hs]; simp) (by rw [hi]; simp; omega) hts hcur' hacc]
      simp

/-- **`SplitString` never reads outside `s`** and yields exactly the list-level split -/
theorem splitString_eq (s : Bytes) (sep : UInt8) (count : Nat) :
    splitString s sep count = .ok (Otel.splitString sep count s) := by
  unfold splitString
  cases count with
  | zero => rfl
  | succ m =>
    -- the loop starts with nothing consumed, an empty current token and no result yet
    rw [if_neg (Nat.succ_ne_zero m), splitLoop_spec sep (m + 1) (rest := s) (pre := []) (cur := []) (acc := []) (m := m) (s := s)
      (i := 0) (ts := 0) rfl rfl rfl List.not_mem_nil (Nat.zero_add _)]
    rfl

theorem pairVal_hex (a b : UInt8) (ha : isHexDigit a = true) : pairVal a b = .ok ((hexToInt a <<< 4) ||| hexToInt b) := by
  have : ¬ hexToInt a = 255 := by simpa [isHexDigit] using ha
  simp [pairVal, this]

/-- loop invariant of the pair loop of `HexToBinary`: `pre` consumed, `A` written, the `k` bytes still to be written
    (one per remaining pair) zero -/
theorem hexLoop_spec (hex : Bytes) : ∀ (rest pre A : Bytes) (k fuel i : Nat) (bp : Int),
    hex = pre ++ rest → i = pre.length → bp = (A.length : Int) → rest.length = 2 * k →
    (∀ c ∈ rest, isHexDigit c = true) → k ≤ fuel →
    hexLoop hex ((hex.length : Int) - 1) fuel i bp (A ++ List.replicate k 0) = .ok (A ++ hexPairs rest) := by
  intro rest pre A k
  induction k generalizing rest pre A with
  | zero =>
    intro fuel i bp hs hi _ hk _ _
    obtain rfl : rest = [] := List.eq_nil_of_length_eq_zero hk
    have hnl : ¬ ((i : Int) < (hex.length : Int) - 1) := by rw [hs, hi, List.append_nil]; omega
    cases fuel <;> simp [hexLoop, hnl, hexPairs]
  | succ k ih =>
    intro fuel i bp hs hi hbp hk hhex hfuel
    -- two bytes at least, and `fuel = 0` contradicts `hfuel`
    match rest, fuel, hk, hfuel with
    | a :: b :: t, f + 1, hk, hfuel =>
      simp only [List.length_cons] at hk
      have hlen : hex.length = pre.length + (t.length + 2) := by rw [hs]; simp
      have hl : (i : Int) < (hex.length : Int) - 1 := by rw [hlen, hi]; omega
      have hrd1 : rd hex i = .ok a := by rw [hs]; exact rd_at' pre a (b :: t) _ hi
      have hrd2 : rd hex (i + 1) = .ok b := by
        rw [hs, List.append_cons]; exact rd_at' (pre ++ [a]) b t _ (by rw [hi]; simp)
      have hwr : wr (A ++ List.replicate (k + 1) 0) bp ((hexToInt a <<< 4) ||| hexToInt b) =
          .ok ((A ++ [(hexToInt a <<< 4) ||| hexToInt b]) ++ List.replicate k 0) := by
        rw [List.replicate_succ, hbp, wr_at, List.append_assoc]; rfl
      rw [hexLoop, if_pos hl, hrd1, IxRes.bind_ok, hrd2, IxRes.bind_ok, pairVal_hex a b (hhex a (by simp)), IxRes.bind_ok, hwr,
        IxRes.bind_ok, ih t (pre ++ [a, b]) (A ++ [(hexToInt a <<< 4) ||| hexToInt b]) f (i + 2) (bp + 1)
          (by rw [hs]; simp) (by rw [hi]; simp) (by rw [hbp]; simp) (by omega) (fun c hc => hhex c (by simp [hc])) (by omega),
        hexPairs, List.append_assoc]
      rfl

/-- the `int64_t` arithmetic of `HexToBinary` for a text of `len = 2 * k + r` digits (`r` the parity) that fits:
    `k + r` bytes are written behind `n - (k + r)` zeroes -/
theorem hex_arith {len n k r : Nat} (hlen : len = 2 * k + r) (hr : r ≤ 1) (hl : ¬ len > n * 2) :
    (len + 1) / 2 = k + r ∧ ((len : Int) + 1) / 2 = ((k + r : Nat) : Int) ∧
    (n : Int) - ((k + r : Nat) : Int) = ((n - (k + r) : Nat) : Int) ∧ n - (k + r) + (k + r) = n ∧
    ((len : Int) % 2 = 1 ↔ r = 1) ∧ (len % 2 = 1 ↔ r = 1) := by
  -- in order: the pad in ℕ and in `int64_t`, the write position as a ℕ, pad + written = n, the two parity tests;
  -- all linear in `k`, `r`, `n` once `len = 2 * k + r`, `r ≤ 1`, `len ≤ 2 * n` are put in
  omega

/-- **`HexToBinary` on a string of hex digits never reads outside `hex`, never writes outside `buffer`, never shifts a
    negative value**, and computes exactly the list-level `Otel.hexToBinary` (left padded with zeroes; refused and
    zeroed when too long) -/
theorem hexToBinary_eq (hex : Bytes) (n : Nat) (h : isValidHex hex = true) :
    hexToBinary hex n = .ok (Otel.hexToBinary hex n) := by
  have hall : ∀ c ∈ hex, isHexDigit c = true := by simpa [isValidHex] using h
  unfold hexToBinary Otel.hexToBinary
  simp only [Nat.mul_comm 2 n]
  by_cases hlong : hex.length > n * 2
  · rw [if_pos hlong, if_pos hlong]
  rw [if_neg hlong, if_neg hlong]
  obtain ⟨k, r, hlen, hr⟩ : ∃ k r, hex.length = 2 * k + r ∧ r ≤ 1 :=
    ⟨_, _, (Nat.div_add_mod hex.length 2).symm, Nat.le_of_lt_succ (Nat.mod_lt _ (by decide))⟩
  obtain ⟨hd, hdI, hbp, hn, hoI, ho⟩ := hex_arith hlen hr hlong
  have hbuf : List.replicate n (0 : UInt8) = List.replicate (n - (k + r)) 0 ++ List.replicate (k + r) 0 := by
    rw [List.replicate_append_replicate, hn]
  rw [← List.length_replicate (n := n - (k + r)) (a := (0 : UInt8))] at hbp
  rw [hd, hdI, hbp, hbuf]
  have hkf : k ≤ hex.length := by omega
  obtain rfl | rfl : r = 0 ∨ r = 1 := by omega
  · rw [Nat.add_zero, if_neg (fun e => nomatch hoI.1 e), if_neg (fun e => nomatch ho.1 e),
      hexLoop_spec hex (rest := hex) (pre := []) (A := _) (k := k) (fuel := _) (i := 0) (bp := _) rfl rfl rfl hlen hall hkf]
    rfl
  · -- a leading single digit, then `k` pairs
    rw [if_pos (hoI.2 rfl), if_pos (ho.2 rfl)]
    match hex, hall, hlen, hkf with
    | c :: t, hall, hlen, hkf =>
      rw [List.replicate_succ, show rd (c :: t) 0 = .ok c from rfl, IxRes.bind_ok, wr_at, IxRes.bind_ok, List.append_cons,
        hexLoop_spec (c :: t) (rest := t) (pre := [c]) (A := _) (k := k) (fuel := _) (i := 1) (bp := _) rfl rfl (by simp) (Nat.succ.inj hlen)
          (fun x hx => hall x (by simp [hx])) hkf]
      simp

end Idx
end Otel
