import OtelVerif.Lemmas.SeriesStore
/-! Per-series exactness below the cardinality limit: while no table reaches its limit (nothing is folded), the
    series of a key `k0` carries exactly the measurements whose key is `k0` — through every collection cycle, for
    every reader.  Same invariant as for the totals, for the measure restricted to the entries of key `k0`, plus a size
    potential that shows no table ever gets near the limit. -/
namespace Otel.Series

variable {K A V : Type} [DecidableEq K]

section key
variable {M : Type} [AddCommMonoid M] (k0 : K)

/-- the measure of the entries with key `k0` -/
def totK (μ : A → M) (es : List (K × A)) : M := (es.map fun e => if e.1 = k0 then μ e.2 else 0).sum

theorem totK_nil (μ : A → M) : totK k0 μ ([] : List (K × A)) = 0 := rfl

theorem totK_append (μ : A → M) (es es' : List (K × A)) : totK k0 μ (es ++ es') = totK k0 μ es + totK k0 μ es' :=
  totW_append (fun k a => if k = k0 then μ a else 0) es es'

theorem totK_perm (μ : A → M) {es es' : List (K × A)} (h : es.Perm es') : totK k0 μ es = totK k0 μ es' :=
  totW_perm (fun k a => if k = k0 then μ a else 0) h

theorem totK_upsertKey (μ : A → M) {k : K} {d : A} {f : A → A} {δ : M} (hd : μ d = 0) (hf : ∀ a, μ (f a) = μ a + δ)
    (es : List (K × A)) : totK k0 μ (upsertKey k d f es) = totK k0 μ es + (if k = k0 then δ else 0) := by
  apply totW_upsertKey (fun k a => if k = k0 then μ a else 0)
  · simp [hd]
  · intro a; by_cases hk : k = k0 <;> simp [hk, hf]

/-- there is room for one more series: `IsOverflowAttributes()` is false -/
def Table.Room (t : Table K A) : Prop := t.size + 1 < t.limit

omit [DecidableEq K] in
theorem Table.Room.not_overflow {t : Table K A} (h : t.Room) : t.isOverflow = false := by
  unfold Table.isOverflow; unfold Table.Room Table.size at h
  simp only [decide_eq_false_iff_not]; omega

variable {ag : Agg V A}

/-- below the limit a measurement lands in the series of its own key -/
theorem Table.totK_record (ms : Measure ag M) (ovf : K) {t : Table K A} (h : t.Room) (k : K) (v : V) :
    totK k0 ms.μ (t.record ag ovf k v).entries = totK k0 ms.μ t.entries + (if k = k0 then ms.w v else 0) := by
  rw [Table.record_entries, Table.slot_of_room ovf h.not_overflow]
  exact totK_upsertKey k0 ms.μ ms.new (fun a => ms.add a v) _

/-- below the limit one merge step adds the merged series to the series of the same key -/
theorem Table.totK_mergeEntry (ms : Measure ag M) (ovf : K) {t : Table K A} (h : t.Room) (e : K × A) :
    totK k0 ms.μ (t.mergeEntry ag ovf e).entries = totK k0 ms.μ t.entries + (if e.1 = k0 then ms.μ e.2 else 0) := by
  rw [Table.mergeEntry_entries, Table.slot_of_room ovf h.not_overflow]
  exact totK_upsertKey k0 ms.μ ms.new (fun a => ms.merge a e.2) _

def sizesSum (ts : List (Table K A)) : Nat := (ts.map fun t => t.size).sum

omit [AddCommMonoid M] in
/-- a merge step adds at most one series, with or without room -/
theorem foldl_mergeEntry_size (ag : Agg V A) (ovf : K) (l : List (K × A)) : ∀ m : Table K A,
    (l.foldl (Table.mergeEntry ag ovf) m).size ≤ m.size + l.length := by
  induction l with
  | nil => exact fun m => Nat.le_refl _
  | cons e l ih =>
    intro m
    have := ih (m.mergeEntry ag ovf e)
    have := Table.size_mergeEntry_le ag ovf m e
    simp only [List.foldl_cons, List.length_cons]; omega

theorem totK_foldl_mergeEntry (ms : Measure ag M) (ovf : K) (l : List (K × A)) : ∀ m : Table K A, m.size + l.length + 1 < m.limit →
    totK k0 ms.μ (l.foldl (Table.mergeEntry ag ovf) m).entries = totK k0 ms.μ m.entries + totK k0 ms.μ l := by
  induction l with
  | nil => exact fun m _ => (add_zero _).symm
  | cons e l ih =>
    intro m h
    simp only [List.length_cons] at h
    have := Table.size_mergeEntry_le ag ovf m e
    rw [List.foldl_cons, ih _ (by rw [Table.mergeEntry_limit]; omega),
      Table.totK_mergeEntry k0 ms ovf (by unfold Table.Room; omega), add_assoc]
    rfl

variable (c : Cfg K A V) (ms : Measure c.ag M)

/-- `sumT (totK k0 μ)` -/
def tablesTotK (μ : A → M) (ts : List (Table K A)) : M := (ts.map fun t => totK k0 μ t.entries).sum

omit [DecidableEq K] in
theorem sizesSum_append (ts ts' : List (Table K A)) : sizesSum (ts ++ ts') = sizesSum ts + sizesSum ts' := by
  simp [sizesSum]

theorem size_mergeTables_le (hiter : ∀ l, (c.iter l).Perm l) (ts : List (Table K A)) (m : Table K A) :
    (mergeTables c m ts).size ≤ m.size + sizesSum ts := by
  rw [mergeTables_eq, sizesSum, ← length_entriesOf hiter]; exact foldl_mergeEntry_size ..

theorem totK_mergeTables (hiter : ∀ l, (c.iter l).Perm l) (ts : List (Table K A)) (m : Table K A)
    (h : m.size + sizesSum ts + 1 < m.limit) :
    totK k0 ms.μ (mergeTables c m ts).entries = totK k0 ms.μ m.entries + tablesTotK k0 ms.μ ts := by
  rw [mergeTables_eq, totK_foldl_mergeEntry k0 ms c.ovf _ m (by rw [length_entriesOf hiter]; exact h)]
  exact congrArg _ (totW_entriesOf hiter (fun k a => if k = k0 then ms.μ a else 0) ts)

/-- `sumT (totK k0 μ)` of what is stashed for reader `r` -/
def pendUK (μ : A → M) (s : Store K A) (r : Nat) : M := tablesTotK k0 μ ((lookupNat r s.unreported).getD [])

/-- `lastT (totK k0 μ)` -/
def lastTotK (μ : A → M) (s : Store K A) (r : Nat) : M :=
  match lookupNat r s.last with
  | some t => totK k0 μ t.entries
  | none => 0

/-- the size potential of reader `r`: everything that can still end up in one of its merged tables -/
def potential (s : Store K A) (r : Nat) : Nat :=
  (match lookupNat r s.last with | some t => t.size | none => 0) + sizesSum ((lookupNat r s.unreported).getD []) + s.cur.size

/-- invariant: the per-key conservation equations plus "no table is near the limit" (`R` = records so far) -/
def SInvK (s : Store K A) (pend : Nat → M) (all : M) (R : Nat) : Prop :=
  s.cur.limit = c.limit ∧ s.cur.size ≤ R ∧
  (Fast c → totK k0 ms.μ s.cur.entries = pend 0) ∧
  (¬ Fast c → ∀ r, r < c.temps.length →
    potential s r ≤ R ∧
    ((lookupNat r s.last).isSome = true → (lookupNat r s.unreported).isSome = true) ∧
    (c.temps[r]? = some Temporality.delta → pendUK k0 ms.μ s r + totK k0 ms.μ s.cur.entries = pend r) ∧
    (c.temps[r]? ≠ some Temporality.delta → lastTotK k0 ms.μ s r + pendUK k0 ms.μ s r + totK k0 ms.μ s.cur.entries = all))

theorem sinvK_iff {s : Store K A} {pend : Nat → M} {all : M} {R : Nat} :
    SInvK k0 c ms s pend all R ↔
      (s.cur.limit = c.limit ∧ s.cur.size ≤ R ∧ (¬ Fast c → ∀ r, r < c.temps.length → potential s r ≤ R)) ∧
      GInv c (totK k0 ms.μ) s pend all :=
  ⟨fun ⟨hl, hsz, h1, h2⟩ => ⟨⟨hl, hsz, fun hf r hr => (h2 hf r hr).1⟩, h1, fun hf r hr => (h2 hf r hr).2⟩,
   fun ⟨⟨hl, hsz, hp⟩, h1, h2⟩ => ⟨hl, hsz, h1, fun hf r hr => ⟨hp hf r hr, h2 hf r hr⟩⟩⟩

theorem sinvK_init : SInvK k0 c ms (Store.init c) (fun _ => 0) 0 0 :=
  (sinvK_iff k0 c ms).mpr ⟨⟨rfl, Nat.le_refl _, fun _ _ _ => Nat.le_refl _⟩, ginv_init (totK_nil k0 ms.μ)⟩

theorem sinvK_record {s : Store K A} {pend : Nat → M} {all : M} {R : Nat} (h : SInvK k0 c ms s pend all R)
    (hroom : R + 1 < c.limit) (k : K) (v : V) :
    SInvK k0 c ms (s.record c k v) (fun r => pend r + (if k = k0 then ms.w v else 0)) (all + (if k = k0 then ms.w v else 0)) (R + 1) := by
  obtain ⟨⟨hl, hsz, hp⟩, hg⟩ := (sinvK_iff k0 c ms).mp h
  have hsz' := Table.size_record_le c.ag c.ovf s.cur k v
  refine (sinvK_iff k0 c ms).mpr ⟨⟨(Table.record_limit ..).trans hl, Nat.le_trans hsz' (Nat.succ_le_succ hsz), fun hf r hr => ?_⟩,
    ginv_record hg k v (Table.totK_record k0 ms c.ovf (by unfold Table.Room; omega) k v)⟩
  have := hp hf r hr
  simp only [potential, Store.record] at this ⊢
  omega

omit [DecidableEq K] in
/-- `lastL` is the last report, if any and if the reader is cumulative; else empty -/
theorem sizesSum_lastL_le (s : Store K A) (r : Nat) :
    sizesSum (lastL c s r) ≤ (match lookupNat r s.last with | some t => t.size | none => 0) := by
  unfold lastL; split <;> cases lookupNat r s.last <;> simp [sizesSum]

/-- a collect on the multi-reader path raises no reader's potential: handing out moves the size of the interval table
    into the stashes, and serving `r` replaces its stash and last report by their merge, which has at most as many
    series as they have together -/
theorem potential_collect_le (hiter : ∀ l, (c.iter l).Perm l) (s : Store K A) {r : Nat}
    (hnf : ¬ (c.temps.length = 1 ∧ c.temps[r]? = some Temporality.delta)) {r' : Nat} (hr' : r' < c.temps.length) :
    potential (s.collect c r).1 r' ≤ potential s r' := by
  have hho : potential (handOut c s) r' = potential s r' := by
    unfold potential
    rw [show (handOut c s).unreported = stash c s from rfl, sizesSum, sum_stash c s Table.size (fun hz => hz) hr']
    exact (Nat.add_assoc ..).symm
  rw [collect_slow hnf, ← hho, serve]
  cases hL : lookupNat r (handOut c s).unreported with
  | none => exact Nat.le_refl _
  | some ts =>
    unfold potential
    simp only [lookupNat_assignNat]
    by_cases hrr : r' = r
    · have hm := size_mergeTables_le c hiter (ts ++ lastL c (handOut c s) r) (Table.empty c.limit)
      have hlast := sizesSum_lastL_le c (handOut c s) r
      rw [sizesSum_append, show (Table.empty c.limit : Table K A).size = 0 from rfl] at hm
      simp only [hrr, if_true, hL, Option.getD_some, mergedFor]
      rw [show sizesSum ([] : List (Table K A)) = 0 from rfl]
      omega
    · simp only [if_neg hrr]; exact Nat.le_refl _

/-- one collect below the limit: per key the output carries exactly what the specification demands -/
theorem sinvK_collect (hiter : ∀ l, (c.iter l).Perm l) {s : Store K A} {pend : Nat → M} {all : M} {R : Nat}
    (h : SInvK k0 c ms s pend all R) (hroom : R + 1 < c.limit) (r : Nat) (hr : r < c.temps.length) :
    (match (s.collect c r).2 with | none => 0 | some es => totK k0 ms.μ es) =
      (if c.temps[r]? = some Temporality.delta then pend r else all) ∧
    SInvK k0 c ms (s.collect c r).1 (fun r' => if r' = r then 0 else pend r') all R := by
  obtain ⟨⟨hl, hsz, hp⟩, hg⟩ := (sinvK_iff k0 c ms).mp h
  have hc := ginv_collect (totK_nil k0 ms.μ) hg r hr fun hf ts hL => by
    -- room for the merge: everything that is merged for `r` is bounded by its potential
    have hpr := hp hf r hr
    have hS : sizesSum ts = sizesSum ((lookupNat r s.unreported).getD []) + s.cur.size := by
      have := sum_stash c s Table.size (fun hz => hz) hr
      rwa [hL] at this
    unfold potential at hpr
    have hlast := sizesSum_lastL_le c s r
    rw [mergedFor, totK_mergeTables k0 c ms hiter _ _ (by
      rw [sizesSum_append, show (Table.empty c.limit : Table K A).size = 0 from rfl, show (Table.empty c.limit : Table K A).limit = c.limit from rfl]
      omega)]
    exact zero_add _
  refine ⟨hc.1, (sinvK_iff k0 c ms).mpr ⟨⟨collect_cur c s r ▸ rfl, collect_cur c s r ▸ Nat.zero_le _, fun hf r' hr' => ?_⟩, hc.2⟩⟩
  exact Nat.le_trans (potential_collect_le c hiter s (fun hh => hf ((fast_iff c hr).mp hh)) hr') (hp hf r' hr')

/-- the `match` of `sinvK_collect`: `totK k0 μ` of a collect's output (`none`: nothing handed over) -/
def outKey (μ : A → M) : Option (List (K × A)) → M
  | none => 0
  | some es => totK k0 μ es

def recordCount : List (Op K V) → Nat
  | [] => 0
  | Op.record _ _ :: ops => recordCount ops + 1
  | Op.collect _ :: ops => recordCount ops

/-- **per-series exactness below the limit**, for every history: the series of `k0` handed to a reader carries
    exactly the measurements with key `k0` of that reader's interval (delta) / so far (cumulative) -/
theorem run_key_totals (hiter : ∀ l, (c.iter l).Perm l) (ops : List (Op K V)) :
    ∀ (s : Store K A) (pend : Nat → M) (all : M) (R : Nat), SInvK k0 c ms s pend all R →
      R + recordCount ops + 1 < c.limit →
      (∀ r, Op.collect r ∈ ops → r < c.temps.length) →
      ((Store.run c s ops).2.map fun o => (o.1, outKey k0 ms.μ o.2)) =
        specTotals c (fun k v => if k = k0 then ms.w v else 0) pend all ops := by
  induction ops with
  | nil => intro s pend all R _ _ _; simp [Store.run, specTotals]
  | cons op ops ih =>
    intro s pend all R h hroom hops
    cases op with
    | record k v =>
      simp only [recordCount] at hroom
      simp only [Store.run, specTotals]
      exact ih _ _ _ (R + 1) (sinvK_record k0 c ms h (by omega) k v) (by omega) fun r hr => hops r (List.mem_cons_of_mem _ hr)
    | collect r =>
      simp only [recordCount] at hroom
      have hr := hops r (List.mem_cons_self ..)
      obtain ⟨ho, hi⟩ := sinvK_collect k0 c ms hiter h (by omega) r hr
      simp only [Store.run, specTotals, List.map_cons]
      have ho' : outKey k0 ms.μ (s.collect c r).2 = (if c.temps[r]? = some Temporality.delta then pend r else all) := by
        rw [← ho]; cases (s.collect c r).2 <;> rfl
      rw [ho', ih _ _ _ R hi hroom fun r' hr' => hops r' (List.mem_cons_of_mem _ hr')]

theorem run_key_totals_init (hiter : ∀ l, (c.iter l).Perm l) (ops : List (Op K V)) (hops : ∀ r, Op.collect r ∈ ops → r < c.temps.length)
    (hroom : recordCount ops + 1 < c.limit) :
    ((Store.run c (Store.init c) ops).2.map fun o => (o.1, outKey k0 ms.μ o.2)) =
      specTotals c (fun k v => if k = k0 then ms.w v else 0) (fun _ => 0) 0 ops :=
  run_key_totals k0 c ms hiter ops (Store.init c) (fun _ => 0) 0 (R := 0) (sinvK_init k0 c ms) (by omega) hops

end key
end Otel.Series
