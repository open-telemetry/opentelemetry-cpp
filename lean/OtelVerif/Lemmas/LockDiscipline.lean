import OtelVerif.Lemmas.Run
/-! What the lock-protocol models (`Model/SpanLock.lean`, `Model/ObsRegLock.lean`, `Model/GetScopeLock.lean`) have in
    common besides their executions (`Lemmas/Run.lean`): a mutex `lock : Option Nat` naming its holder, and guards of the
    replay functions.  Stated over variables; each model instantiates them. -/
namespace Otel.Lock

theorem holder_unique {lock : Option Nat} {t t' : Nat} (h1 : lock = some t) (h2 : lock = some t') : t = t' :=
  Option.some.inj (h1.symm.trans h2)

/-! The frame argument of a lock discipline: when thread `t` takes a free lock, or steps while holding it, no OTHER thread
    holds it, so whatever the invariant promises to the other holders need not be re-established. -/

theorem others_of_free {lock : Option Nat} {t : Nat} {P : Nat → Prop} (h : lock = none) :
    ∀ t', t' ≠ t → lock = some t' → P t' :=
  fun _ _ h' => by rw [h] at h'; cases h'

theorem others_of_holder {lock : Option Nat} {t : Nat} {P : Nat → Prop} (h : lock = some t) :
    ∀ t', t' ≠ t → lock = some t' → P t' :=
  fun _ ht h' => absurd (holder_unique h' h) ht

/-- a guard of a replay (`guardPc` of the models) only filters: what passes it is what went in -/
theorem guard_some {σ : Type} {g : Option σ → Option σ} {c : σ → Bool} (hsome : ∀ x, g (some x) = if c x then some x else none)
    (hnone : g none = none) {o : Option σ} {s' : σ} (h : g o = some s') : o = some s' := by
  cases o with
  | none => rw [hnone] at h; cases h
  | some x =>
    rw [hsome] at h
    split at h
    · exact h
    · cases h

end Otel.Lock
