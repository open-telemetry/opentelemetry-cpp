import OtelVerif.Model.RelAcq
/-! Facts about the memory operations of `Model/RelAcq.lean`, in the form the client invariants use them: what a step
    does to a thread's view of a location (`cv`), to the latest message of a location (`lmv`) and to the set of messages;
    that no view of a plain location gets ahead of its access clock (`ClkBound`, kept by every operation); and how an
    up-to-date view of a plain location travels: a release write by a thread that has it leaves a message that has it
    (`store_releases`, `ClkBound.rmw_releases`), an acquire read of such a message gives it to the reader
    (`ClkBound.rmw_acquires`, `load_acq_ge`). -/
namespace Otel.RelAcq
open Otel.Ring (upd upd_same upd_other)

theorem View.get_nil (l : Nat) : View.get [] l = 0 := rfl

@[simp] theorem View.get_bot (l : Nat) : View.bot.get l = 0 := View.get_nil l

theorem View.get_join (a b : View) (l : Nat) : (a.join b).get l = max (a.get l) (b.get l) := by
  induction a generalizing b l with
  | nil => exact (Nat.zero_max _).symm
  | cons x a ih =>
    cases b with
    | nil => exact (Nat.max_zero _).symm
    | cons y b =>
      cases l with
      | zero => rfl
      | succ l => exact ih b l

theorem View.get_set (a : View) (l n x : Nat) : (a.set l n).get x = if x = l then n else a.get x := by
  induction l generalizing a x with
  | zero => cases a <;> cases x <;> rfl
  | succ l ih =>
    cases x with
    | zero => cases a <;> rfl
    | succ x =>
      -- entry `x + 1` of the result is entry `x` of what `set` makes of the tail
      simp only [Nat.add_right_cancel_iff]
      cases a with
      | nil => exact ih [] x
      | cons y a => exact ih a x

theorem latest_append (msgs : List Msg) (m : Msg) : latest (msgs ++ [m]) = m := List.getLastD_concat ..

/-- thread `t`'s view of location `x` -/
def cv (m : Mem) (t x : Nat) : Nat := (m.views t).get x
/-- what the latest message of `l` carries for location `x` -/
def lmv (m : Mem) (l x : Nat) : Nat := (latest (m.atom l)).view.get x
/-- every message of `l` carries at most `n` for location `x` -/
def MsgsLe (m : Mem) (l x n : Nat) : Prop := ∀ msg ∈ m.atom l, msg.view.get x ≤ n

theorem MsgsLe.mono {m : Mem} {l x n n' : Nat} (h : MsgsLe m l x n) (hn : n ≤ n') : MsgsLe m l x n' :=
  fun msg hm => Nat.le_trans (h msg hm) hn

theorem lmv_le {m : Mem} {l x n : Nat} (h : MsgsLe m l x n) : lmv m l x ≤ n := by
  unfold lmv latest
  rw [List.getLastD_eq_getLast?]
  cases hl : (m.atom l).getLast? with
  | none => simp [Msg.init]
  | some msg => exact h msg (List.mem_of_getLast? hl)

theorem init_cv (t x : Nat) : cv Mem.init t x = 0 := by simp [cv, Mem.init]
theorem init_lmv (l x : Nat) : lmv Mem.init l x = 0 := by simp [lmv, Mem.init, latest, Msg.init]
theorem init_latestVal (l : Nat) : Mem.init.latestVal l = 0 := by simp [Mem.latestVal, Mem.init, latest, Msg.init]
theorem init_msgsLe (l x n : Nat) : MsgsLe Mem.init l x n := by
  intro msg hm; simp [Mem.init, Msg.init] at hm; subst hm; simp

/-- nothing is ahead of the access clock of the plain location `x`: no thread's view of `x`, no view attached to a
    message of an atomic location in `L`, nor the clock of its last write -/
structure ClkBound (m : Mem) (L : Nat → Prop) (x : Nat) : Prop where
  views : ∀ t, cv m t x ≤ (m.na x).clk
  msgs  : ∀ l, L l → MsgsLe m l x (m.na x).clk
  lastW : (m.na x).lastW ≤ (m.na x).clk

theorem MsgsLe.snoc {m m' : Mem} {l x n : Nat} (h : MsgsLe m l x n)
    (hat : m'.atom l = m.atom l ++ [latest (m'.atom l)]) (hnew : lmv m' l x ≤ n) : MsgsLe m' l x n := by
  unfold MsgsLe
  rw [hat, List.forall_mem_append, List.forall_mem_singleton]
  exact ⟨h, hnew⟩

theorem load_some {m m' : Mem} {t l k v : Nat} {o : MO} (h : load m t l o k = some (v, m')) :
    ∃ msg, (m.atom l)[k]? = some msg ∧ v = msg.val ∧ cv m t l ≤ k ∧
      m' = { m with views := upd m.views t (if o.isAcq then ((m.views t).set l k).join msg.view else (m.views t).set l k) } := by
  unfold load at h
  split at h
  · rename_i hg
    split at h
    · rename_i msg hk
      cases h
      exact ⟨msg, hk, rfl, hg, rfl⟩
    · cases h
  · cases h

theorem load_cv_other {m m' : Mem} {t l k v : Nat} {o : MO} (h : load m t l o k = some (v, m'))
    (t' x : Nat) (ht : t' ≠ t) : cv m' t' x = cv m t' x := by
  obtain ⟨msg, _, _, _, rfl⟩ := load_some h
  simp [cv, upd_other _ _ _ _ ht]

theorem load_cv_same_ge {m m' : Mem} {t l k v : Nat} {o : MO} (h : load m t l o k = some (v, m')) : k ≤ cv m' t l := by
  obtain ⟨msg, _, _, _, rfl⟩ := load_some h
  simp only [cv, upd_same]
  split
  · rw [View.get_join, View.get_set, if_pos rfl]; exact Nat.le_max_left _ _
  · rw [View.get_set, if_pos rfl]; exact Nat.le_refl _

theorem load_cv_mono {m m' : Mem} {t l k v : Nat} {o : MO} (h : load m t l o k = some (v, m')) (t' x : Nat) :
    cv m t' x ≤ cv m' t' x := by
  obtain ⟨_, _, _, hg, rfl⟩ := load_some h
  by_cases ht : t' = t
  · have hset : cv m t x ≤ ((m.views t).set l k).get x := by
      rw [View.get_set]
      split
      · rename_i hx; rw [hx]; exact hg
      · exact Nat.le_refl _
    rw [ht]
    simp only [cv, upd_same]
    split
    · rw [View.get_join]; exact Nat.le_trans hset (Nat.le_max_left _ _)
    · exact hset
  · simp [cv, upd_other _ _ _ _ ht]

/-- **acquire**: an acquire load joins the view of the message it reads -/
theorem load_acq_ge {m m' : Mem} {t l k v : Nat} {o : MO} (hacq : o.isAcq = true) (h : load m t l o k = some (v, m')) (x : Nat) :
    ∃ msg, msg ∈ m.atom l ∧ v = msg.val ∧ msg.view.get x ≤ cv m' t x := by
  obtain ⟨msg, hk, hval, _, rfl⟩ := load_some h
  refine ⟨msg, List.mem_of_getElem? hk, hval, ?_⟩
  simp only [cv, upd_same, hacq, if_true]
  rw [View.get_join]; exact Nat.le_max_right _ _

theorem ClkBound.of_load {m m' : Mem} {L : Nat → Prop} {t l k v x : Nat} {o : MO} (hB : ClkBound m L x) (hl : L l)
    (hx : x ≠ l) (h : load m t l o k = some (v, m')) : ClkBound m' L x := by
  have hother := load_cv_other h
  obtain ⟨msg, hk, _, _, rfl⟩ := load_some h
  refine ⟨fun t' => ?_, hB.msgs, hB.lastW⟩
  by_cases ht : t' = t
  · -- the loading thread's view of `x` moves only by joining the view of a message of `l`
    rw [ht]
    simp only [cv, upd_same]
    split
    · rw [View.get_join, View.get_set, if_neg hx]
      exact Nat.max_le.2 ⟨hB.views t, hB.msgs l hl msg (List.mem_of_getElem? hk)⟩
    · rw [View.get_set, if_neg hx]; exact hB.views t
  · rw [hother t' x ht]; exact hB.views t'

theorem rmw_old (m : Mem) (t l : Nat) (o : MO) (val : Nat) : (rmw m t l o val).1 = m.latestVal l := rfl
theorem rmw_na (m : Mem) (t l : Nat) (o : MO) (val : Nat) : (rmw m t l o val).2.na = m.na := rfl
theorem rmw_race (m : Mem) (t l : Nat) (o : MO) (val : Nat) : (rmw m t l o val).2.race = m.race := rfl

theorem rmw_atom_other (m : Mem) (t l : Nat) (o : MO) (val l' : Nat) (h : l' ≠ l) :
    (rmw m t l o val).2.atom l' = m.atom l' := by simp [rmw, upd_other _ _ _ _ h]

theorem rmw_atom_same (m : Mem) (t l : Nat) (o : MO) (val : Nat) :
    (rmw m t l o val).2.atom l = m.atom l ++ [latest ((rmw m t l o val).2.atom l)] := by simp [rmw, latest_append]

theorem rmw_latestVal_same (m : Mem) (t l : Nat) (o : MO) (val : Nat) : (rmw m t l o val).2.latestVal l = val := by
  simp [rmw, Mem.latestVal, latest_append]

theorem rmw_latestVal_other (m : Mem) (t l : Nat) (o : MO) (val l' : Nat) (h : l' ≠ l) :
    (rmw m t l o val).2.latestVal l' = m.latestVal l' := by
  simp [Mem.latestVal, rmw_atom_other m t l o val l' h]

theorem rmw_lmv_other (m : Mem) (t l : Nat) (o : MO) (val l' x : Nat) (h : l' ≠ l) :
    lmv (rmw m t l o val).2 l' x = lmv m l' x := by
  simp [lmv, rmw_atom_other m t l o val l' h]

theorem rmw_cv_other (m : Mem) (t l : Nat) (o : MO) (val t' x : Nat) (ht : t' ≠ t) :
    cv (rmw m t l o val).2 t' x = cv m t' x := by simp [cv, rmw, upd_other _ _ _ _ ht]

theorem rmw_cv_self (m : Mem) (t l : Nat) (o : MO) (val x : Nat) (hx : x ≠ l) :
    cv (rmw m t l o val).2 t x = if o.isAcq then max (cv m t x) (lmv m l x) else cv m t x := by
  simp only [cv, lmv, rmw, upd_same]
  rw [View.get_set, if_neg hx]
  split
  · rw [View.get_join]
  · rfl

theorem rmw_lmv_same (m : Mem) (t l : Nat) (o : MO) (val x : Nat) :
    lmv (rmw m t l o val).2 l x = max (if o.isRel then cv (rmw m t l o val).2 t x else 0) (lmv m l x) := by
  simp only [lmv, cv, rmw, upd_same, latest_append]
  rw [View.get_join]
  split <;> rfl

theorem rmw_cv_ge (m : Mem) (t l : Nat) (o : MO) (val x : Nat) (hx : x ≠ l) : cv m t x ≤ cv (rmw m t l o val).2 t x := by
  rw [rmw_cv_self _ _ _ _ _ _ hx]
  split
  · exact Nat.le_max_left _ _
  · exact Nat.le_refl _

/-- **release**: the message of a release read-modify-write carries the writing thread's view -/
theorem rmw_rel_lmv_ge (m : Mem) (t l : Nat) {o : MO} (val x : Nat) (hrel : o.isRel = true) :
    cv (rmw m t l o val).2 t x ≤ lmv (rmw m t l o val).2 l x := by
  rw [rmw_lmv_same, hrel, if_pos rfl]; exact Nat.le_max_left _ _

theorem rmw_cv_le {m : Mem} {t l x n : Nat} (o : MO) (val : Nat) (hx : x ≠ l) (hm : MsgsLe m l x n) (hc : cv m t x ≤ n) :
    cv (rmw m t l o val).2 t x ≤ n := by
  rw [rmw_cv_self _ _ _ _ _ _ hx]
  split
  · exact Nat.max_le.2 ⟨hc, lmv_le hm⟩
  · exact hc

theorem rmw_lmv_le {m : Mem} {t l x n : Nat} (o : MO) (val : Nat) (hx : x ≠ l) (hm : MsgsLe m l x n) (hc : cv m t x ≤ n) :
    lmv (rmw m t l o val).2 l x ≤ n := by
  rw [rmw_lmv_same]
  refine Nat.max_le.2 ⟨?_, lmv_le hm⟩
  split
  · exact rmw_cv_le o val hx hm hc
  · exact Nat.zero_le _

theorem ClkBound.of_rmw {m : Mem} {L : Nat → Prop} {l x : Nat} (hB : ClkBound m L x) (hl : L l) (hx : x ≠ l)
    (t : Nat) (o : MO) (val : Nat) : ClkBound (rmw m t l o val).2 L x := by
  refine ⟨fun t' => ?_, fun l' hl' => ?_, hB.lastW⟩
  · by_cases ht : t' = t
    · rw [ht]; exact rmw_cv_le o val hx (hB.msgs l hl) (hB.views t)
    · rw [rmw_cv_other _ _ _ _ _ _ _ ht]; exact hB.views t'
  · by_cases h : l' = l
    · rw [h]; exact (hB.msgs l hl).snoc (rmw_atom_same ..) (rmw_lmv_le o val hx (hB.msgs l hl) (hB.views t))
    · unfold MsgsLe; rw [rmw_atom_other _ _ _ _ _ _ h]; exact hB.msgs l' hl'

/-- **acquire**: a read-modify-write that reads a message whose view of `x` is current makes the thread's view current -/
theorem ClkBound.rmw_acquires {m : Mem} {L : Nat → Prop} {t l x : Nat} {o : MO} (hB : ClkBound m L x) (hacq : o.isAcq = true)
    (hx : x ≠ l) (val : Nat) (hcur : lmv m l x = (m.na x).clk) : cv (rmw m t l o val).2 t x = (m.na x).clk := by
  rw [rmw_cv_self _ _ _ _ _ _ hx, hacq, if_pos rfl, hcur]
  exact Nat.max_eq_right (hB.views t)

/-- **release**: a read-modify-write by a thread whose view of `x` is current leaves a message whose view is current -/
theorem ClkBound.rmw_releases {m : Mem} {L : Nat → Prop} {t l x : Nat} {o : MO} (hB : ClkBound m L x) (hl : L l)
    (hrel : o.isRel = true) (hx : x ≠ l) (val : Nat) (hcur : cv m t x = (m.na x).clk) :
    lmv (rmw m t l o val).2 l x = (m.na x).clk := by
  apply Nat.le_antisymm (rmw_lmv_le o val hx (hB.msgs l hl) (hB.views t))
  rw [← hcur]
  exact Nat.le_trans (rmw_cv_ge _ _ _ _ _ _ hx) (rmw_rel_lmv_ge _ _ _ _ _ hrel)

theorem store_na (m : Mem) (t l : Nat) (o : MO) (val : Nat) : (store m t l o val).na = m.na := rfl
theorem store_race (m : Mem) (t l : Nat) (o : MO) (val : Nat) : (store m t l o val).race = m.race := rfl

theorem store_atom_other (m : Mem) (t l : Nat) (o : MO) (val l' : Nat) (h : l' ≠ l) :
    (store m t l o val).atom l' = m.atom l' := by simp [store, upd_other _ _ _ _ h]

theorem store_atom_same (m : Mem) (t l : Nat) (o : MO) (val : Nat) :
    (store m t l o val).atom l = m.atom l ++ [latest ((store m t l o val).atom l)] := by simp [store, latest_append]

theorem store_latestVal_same (m : Mem) (t l : Nat) (o : MO) (val : Nat) : (store m t l o val).latestVal l = val := by
  simp [store, Mem.latestVal, latest_append]

theorem store_cv_other (m : Mem) (t l : Nat) (o : MO) (val t' x : Nat) (ht : t' ≠ t) :
    cv (store m t l o val) t' x = cv m t' x := by simp [cv, store, upd_other _ _ _ _ ht]

theorem store_cv_self (m : Mem) (t l : Nat) (o : MO) (val x : Nat) (hx : x ≠ l) :
    cv (store m t l o val) t x = cv m t x := by
  simp only [cv, store, upd_same]
  rw [View.get_set, if_neg hx]

theorem store_lmv_same (m : Mem) (t l : Nat) (o : MO) (val x : Nat) (hx : x ≠ l) :
    lmv (store m t l o val) l x = if o.isRel then cv m t x else 0 := by
  simp only [lmv, cv, store, upd_same, latest_append]
  split
  · rw [View.get_set, if_neg hx]
  · rfl

/-- **release**: the message of a release store carries the storing thread's view -/
theorem store_releases (m : Mem) (t l : Nat) {o : MO} (val : Nat) {x : Nat} (hrel : o.isRel = true) (hx : x ≠ l) :
    lmv (store m t l o val) l x = cv m t x := by rw [store_lmv_same _ _ _ _ _ _ hx, hrel, if_pos rfl]

theorem ClkBound.of_store {m : Mem} {L : Nat → Prop} {l x : Nat} (hB : ClkBound m L x) (hl : L l) (hx : x ≠ l)
    (t : Nat) (o : MO) (val : Nat) : ClkBound (store m t l o val) L x := by
  refine ⟨fun t' => ?_, fun l' hl' => ?_, hB.lastW⟩
  · by_cases ht : t' = t
    · rw [ht, store_cv_self _ _ _ _ _ _ hx]; exact hB.views t
    · rw [store_cv_other _ _ _ _ _ _ _ ht]; exact hB.views t'
  · by_cases h : l' = l
    · rw [h]
      refine (hB.msgs l hl).snoc (store_atom_same ..) ?_
      rw [store_lmv_same _ _ _ _ _ _ hx]
      split
      · exact hB.views t
      · exact Nat.zero_le _
    · unfold MsgsLe; rw [store_atom_other _ _ _ _ _ _ h]; exact hB.msgs l' hl'

theorem naRead_val (m : Mem) (t x : Nat) : (naRead m t x).1 = (m.na x).val := rfl
theorem naRead_atom (m : Mem) (t x : Nat) : (naRead m t x).2.atom = m.atom := rfl
theorem naRead_race (m : Mem) (t x : Nat) :
    (naRead m t x).2.race = (m.race || decide (cv m t x < (m.na x).lastW)) := rfl
theorem naRead_na_same (m : Mem) (t x : Nat) :
    (naRead m t x).2.na x = { val := (m.na x).val, clk := (m.na x).clk + 1, lastW := (m.na x).lastW } := by
  simp [naRead]
theorem naRead_na_other (m : Mem) (t x y : Nat) (h : y ≠ x) : (naRead m t x).2.na y = m.na y := by
  simp [naRead, upd_other _ _ _ _ h]
theorem naRead_cv_ne (m : Mem) (t x : Nat) {t' y : Nat} (h : t' ≠ t ∨ y ≠ x) : cv (naRead m t x).2 t' y = cv m t' y := by
  by_cases ht : t' = t
  · rw [ht]
    simp only [cv, naRead, upd_same]
    split
    · rw [View.get_set, if_neg (h.resolve_left (fun h => h ht))]
    · rfl
  · simp [cv, naRead, upd_other _ _ _ _ ht]
theorem naRead_cv_self (m : Mem) (t x : Nat) (h : cv m t x = (m.na x).clk) :
    cv (naRead m t x).2 t x = (m.na x).clk + 1 := by
  have h' : (m.views t).get x = (m.na x).clk := h
  simp only [cv, naRead, upd_same, h', if_true]
  rw [View.get_set, if_pos rfl]

theorem naWrite_atom (m : Mem) (t x v : Nat) : (naWrite m t x v).atom = m.atom := rfl
theorem naWrite_race (m : Mem) (t x v : Nat) :
    (naWrite m t x v).race = (m.race || decide (cv m t x < (m.na x).clk)) := rfl
theorem naWrite_na_same (m : Mem) (t x v : Nat) :
    (naWrite m t x v).na x = { val := v, clk := (m.na x).clk + 1, lastW := (m.na x).clk + 1 } := by
  simp [naWrite]
theorem naWrite_na_other (m : Mem) (t x v y : Nat) (h : y ≠ x) : (naWrite m t x v).na y = m.na y := by
  simp [naWrite, upd_other _ _ _ _ h]
theorem naWrite_cv_ne (m : Mem) (t x v : Nat) {t' y : Nat} (h : t' ≠ t ∨ y ≠ x) : cv (naWrite m t x v) t' y = cv m t' y := by
  by_cases ht : t' = t
  · rw [ht]
    simp only [cv, naWrite, upd_same]
    rw [View.get_set, if_neg (h.resolve_left (fun h => h ht))]
  · simp [cv, naWrite, upd_other _ _ _ _ ht]
theorem naWrite_cv_self (m : Mem) (t x v : Nat) : cv (naWrite m t x v) t x = (m.na x).clk + 1 := by
  simp only [cv, naWrite, upd_same]
  rw [View.get_set, if_pos rfl]

/-- what a plain access to `x` by a thread `t` whose view of `x` is current does to the memory, apart from the value:
    the access clock advances, `t`'s view of `x` follows, everything else stays, and no race is flagged -/
structure PlainStep (m m' : Mem) (t x : Nat) : Prop where
  atom  : m'.atom = m.atom
  race  : m'.race = m.race
  clk   : (m'.na x).clk = (m.na x).clk + 1
  lastW : (m'.na x).lastW = (m.na x).lastW ∨ (m'.na x).lastW = (m.na x).clk + 1
  naO   : ∀ y, y ≠ x → m'.na y = m.na y
  cvS   : cv m' t x = (m.na x).clk + 1
  cvO   : ∀ t' y, t' ≠ t ∨ y ≠ x → cv m' t' y = cv m t' y

theorem naRead_plain {m : Mem} {t x : Nat} (hcur : cv m t x = (m.na x).clk) (hW : (m.na x).lastW ≤ (m.na x).clk) :
    PlainStep m (naRead m t x).2 t x := by
  refine ⟨naRead_atom m t x, ?_, by rw [naRead_na_same], Or.inl (by rw [naRead_na_same]), naRead_na_other m t x,
    naRead_cv_self m t x hcur, fun _ _ => naRead_cv_ne m t x⟩
  rw [naRead_race, hcur, decide_eq_false (Nat.not_lt.2 hW), Bool.or_false]

theorem naWrite_plain {m : Mem} {t x : Nat} (v : Nat) (hcur : cv m t x = (m.na x).clk) :
    PlainStep m (naWrite m t x v) t x := by
  refine ⟨naWrite_atom m t x v, ?_, by rw [naWrite_na_same], Or.inr (by rw [naWrite_na_same]), naWrite_na_other m t x v,
    naWrite_cv_self m t x v, fun _ _ => naWrite_cv_ne m t x v⟩
  rw [naWrite_race, hcur, decide_eq_false (Nat.lt_irrefl _), Bool.or_false]

theorem ClkBound.of_plain {m m' : Mem} {L : Nat → Prop} {t x y : Nat} (hB : ClkBound m L y) (h : PlainStep m m' t x) :
    ClkBound m' L y := by
  by_cases hy : y = x
  · subst hy
    refine ⟨fun t' => ?_, fun l hl => ?_, ?_⟩ <;> rw [h.clk]
    · by_cases ht : t' = t
      · rw [ht, h.cvS]; exact Nat.le_refl _
      · rw [h.cvO t' y (Or.inl ht)]; exact Nat.le_succ_of_le (hB.views t')
    · unfold MsgsLe; rw [h.atom]; exact (hB.msgs l hl).mono (Nat.le_succ _)
    · rcases h.lastW with hw | hw <;> rw [hw]
      · exact Nat.le_succ_of_le hB.lastW
      · exact Nat.le_refl _
  · refine ⟨fun t' => ?_, fun l hl => ?_, ?_⟩ <;> rw [h.naO y hy]
    · rw [h.cvO t' y (Or.inr hy)]; exact hB.views t'
    · unfold MsgsLe; rw [h.atom]; exact hB.msgs l hl
    · exact hB.lastW

theorem le_getLastD (l : List Msg) (d : Msg) (h : l.Pairwise (fun a b => a.val ≤ b.val)) (x : Msg) (hx : x ∈ l) :
    x.val ≤ (l.getLastD d).val := by
  rcases List.eq_nil_or_concat l with rfl | ⟨l', y, rfl⟩
  · cases hx
  · rw [List.concat_eq_append] at h hx ⊢
    rw [List.getLastD_concat]
    rcases List.mem_append.1 hx with hx | hx
    · exact (List.pairwise_append.1 h).2.2 x hx y (List.mem_singleton_self y)
    · rw [List.mem_singleton.1 hx]; exact Nat.le_refl _

/-- on a location whose successive values never decrease, a load - however stale - returns at most the latest value -/
theorem load_le_latest {m m' : Mem} {t l k v : Nat} {o : MO} (hmono : (m.atom l).Pairwise (fun a b => a.val ≤ b.val))
    (h : load m t l o k = some (v, m')) : v ≤ m.latestVal l := by
  obtain ⟨msg, hk, hv, _⟩ := load_some h
  rw [hv]; exact le_getLastD _ _ hmono msg (List.mem_of_getElem? hk)

/-- a read-modify-write that does not decrease the value (a successful `compare_exchange` to `head + 1`, `+= n`) keeps
    the values of the location monotone -/
theorem rmw_mono {m : Mem} {t l val : Nat} {o : MO} (hmono : (m.atom l).Pairwise (fun a b => a.val ≤ b.val))
    (hv : m.latestVal l ≤ val) : ((rmw m t l o val).2.atom l).Pairwise (fun a b => a.val ≤ b.val) := by
  rw [rmw_atom_same, List.pairwise_append]
  refine ⟨hmono, List.pairwise_singleton _ _, fun a ha b hb => ?_⟩
  rw [List.mem_singleton.1 hb]
  exact Nat.le_trans (le_getLastD _ _ hmono a ha) (Nat.le_trans hv (Nat.le_of_eq (rmw_latestVal_same m t l o val).symm))
end Otel.RelAcq
