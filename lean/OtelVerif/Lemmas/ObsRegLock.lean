import OtelVerif.Model.ObsRegLock
import OtelVerif.Lemmas.LockDiscipline
/-! The inductive invariant of the observable-registry lock protocol (`Model/ObsRegLock.lean`) and its preservation by
    every step of every thread. -/
namespace Otel.ObsRegLock
open Otel.Ring (upd upd_same upd_other)

/-- what the program counter of thread `t` says about the shared state -/
def TInv (s : St) (t : Nat) : Prop :=
  match s.pc t with
  | .idle => True
  | .aLock _ => True
  | .aPush _ => s.lock = some t
  | .aUnlock r => s.lock = some t ∧ r ∈ s.cbs
  | .rLock _ => True
  | .rErase _ => s.lock = some t
  | .rUnlock r => s.lock = some t ∧ r ∉ s.cbs
  | .cLock _ => True
  | .cErase _ => s.lock = some t
  | .cUnlock i => s.lock = some t ∧ ∀ r, r ∈ s.cbs → r.inst ≠ i
  | .oLock => True
  | .oLoop k snap inv => s.lock = some t ∧ s.cbs = snap ∧ inv = snap.take k
  | .oCb k snap inv r => s.lock = some t ∧ s.cbs = snap ∧ snap[k]? = some r ∧ inv = snap.take (k + 1)
  | .oUnlock snap inv => s.lock = some t ∧ s.cbs = snap ∧ inv = snap

def Inv (s : St) : Prop := ∀ t, TInv s t

theorem inv_init (regs : List Reg) : Inv (init regs) := fun _ => trivial

/-- the invariant of a thread other than the stepping one: it only looks at the lock and the vector, and only if it holds
    the lock -/
theorem TInv_frame {s s' : St} {t' : Nat} (hpc : s'.pc t' = s.pc t')
    (hfr : s.lock = some t' → s'.lock = some t' ∧ s'.cbs = s.cbs) (h : TInv s t') : TInv s' t' := by
  unfold TInv at h ⊢
  rw [hpc]
  generalize s.pc t' = p at h ⊢
  cases p with
  | idle | aLock | rLock | cLock | oLock => trivial
  | aPush | rErase | cErase => exact (hfr h).1
  | aUnlock | rUnlock | cUnlock | oLoop | oCb | oUnlock => rw [(hfr h.1).2]; exact ⟨(hfr h.1).1, h.2⟩

/-- `TInv` at a known program counter: on a state all of whose threads stand at `p` the `match` computes, so the right
    side is, by unfolding, the clause of `p` -/
theorem TInv_at {s : St} {t : Nat} {p : Pc} (hp : s.pc t = p) : TInv s t ↔ TInv { s with pc := fun _ => p } t := by
  unfold TInv; rw [hp]

/-- thread `t` moves to `p'`: its own clause is established anew, the clause of any other thread that holds the lock
    stands because lock and vector are as they were -/
theorem inv_upd {s s' : St} {t : Nat} {p' : Pc} (hI : Inv s) (hpc : s'.pc = upd s.pc t p')
    (hfr : ∀ t', t' ≠ t → s.lock = some t' → s'.lock = some t' ∧ s'.cbs = s.cbs)
    (hself : TInv { s' with pc := fun _ => p' } t) : Inv s' := by
  intro t'
  by_cases ht : t' = t
  · rw [ht]; exact (TInv_at (by rw [hpc, upd_same])).mpr hself
  · exact TInv_frame (by rw [hpc, upd_other _ _ _ _ ht]) (hfr t' ht) (hI t')

theorem inv_call {s s' : St} {t : Nat} {op : Op} (hI : Inv s) (h : call s t op = some s') : Inv s' := by
  unfold call at h
  split at h
  · cases op <;> cases h <;> exact inv_upd hI rfl (fun _ _ hl => ⟨hl, rfl⟩) trivial
  · cases h

theorem inv_step {s s' : St} {t : Nat} (hI : Inv s) (h : step s t = some s') : Inv s' := by
  unfold step at h
  have hth := hI t
  unfold TInv at hth
  cases hp : s.pc t with
  | idle => simp only [hp] at h; cases h
  | aLock | rLock | cLock =>
    simp only [hp] at h
    obtain ⟨hl, h⟩ := Option.ite_none_right_eq_some.mp h
    cases h; exact inv_upd hI rfl (Lock.others_of_free hl) rfl
  | oLock =>
    simp only [hp] at h
    obtain ⟨hl, h⟩ := Option.ite_none_right_eq_some.mp h
    cases h; exact inv_upd hI rfl (Lock.others_of_free hl) ⟨rfl, rfl, rfl⟩
  | aUnlock | rUnlock | cUnlock | oUnlock =>
    simp only [hp] at h hth; cases h
    exact inv_upd hI rfl (Lock.others_of_holder hth.1) trivial
  | aPush r =>
    simp only [hp] at h hth; cases h
    exact inv_upd hI rfl (Lock.others_of_holder hth) ⟨hth, by simp⟩
  | rErase r =>
    simp only [hp] at h hth; cases h
    exact inv_upd hI rfl (Lock.others_of_holder hth) ⟨hth, by simp [List.mem_filter]⟩
  | cErase i =>
    simp only [hp] at h hth; cases h
    exact inv_upd hI rfl (Lock.others_of_holder hth) ⟨hth, fun r hr => by simpa using (List.mem_filter.mp hr).2⟩
  | oLoop k snap inv =>
    simp only [hp] at h hth
    obtain ⟨hl, hc, hi⟩ := hth
    split at h
    next r hg =>
      cases h
      rw [hc] at hg
      exact inv_upd hI rfl (Lock.others_of_holder hl) ⟨hl, hc, hg, by rw [hi, List.take_add_one, hg]; rfl⟩
    next hg =>
      cases h
      rw [hc] at hg
      exact inv_upd hI rfl (Lock.others_of_holder hl)
        ⟨hl, hc, by rw [hi]; exact List.take_of_length_le (List.getElem?_eq_none_iff.mp hg)⟩
  | oCb k snap inv r =>
    simp only [hp] at h hth; cases h
    exact inv_upd hI rfl (Lock.others_of_holder hth.1) ⟨hth.1, hth.2.1, hth.2.2.2⟩

theorem inv_act {s s' : St} {a : Act} (hI : Inv s) (h : act s a = some s') : Inv s' := by
  cases a with
  | call t op => exact inv_call hI h
  | step t => exact inv_step hI h

theorem call_effect {s s' : St} {t : Nat} {op : Op} (h : call s t op = some s') : s'.cbs = s.cbs ∧ s'.begun = s.begun := by
  unfold call at h
  split at h
  · cases op <;> cases h <;> exact ⟨rfl, rfl⟩
  · cases h

theorem step_effect {s s' : St} {t : Nat} (h : step s t = some s') :
    (s'.cbs = s.cbs ∨ (∃ r, s.pc t = .aPush r ∧ s'.cbs = s.cbs ++ [r]) ∨ ∃ p, s'.cbs = s.cbs.filter p) ∧
    (s'.begun = s.begun ∨ ∃ r, r ∈ s.cbs ∧ s'.begun = s.begun ++ [r]) := by
  unfold step at h
  cases hp : s.pc t with
  | idle => simp only [hp] at h; cases h
  | aPush r => simp only [hp] at h; cases h; exact ⟨.inr (.inl ⟨r, rfl, rfl⟩), .inl rfl⟩
  | rErase | cErase => simp only [hp] at h; cases h; exact ⟨.inr (.inr ⟨_, rfl⟩), .inl rfl⟩
  | oLoop k =>
    simp only [hp] at h
    split at h <;> cases h
    · exact ⟨.inl rfl, .inr ⟨_, List.mem_of_getElem? ‹_›, rfl⟩⟩
    · exact ⟨.inl rfl, .inl rfl⟩
  | aLock | rLock | cLock | oLock =>
    simp only [hp] at h
    obtain ⟨_, h⟩ := Option.ite_none_right_eq_some.mp h
    cases h; exact ⟨.inl rfl, .inl rfl⟩
  | aUnlock | rUnlock | cUnlock | oCb | oUnlock => simp only [hp] at h; cases h; exact ⟨.inl rfl, .inl rfl⟩

theorem run_nil (s : St) : run s [] = some s := rfl

theorem run_cons (s : St) (a : Act) (as : List Act) : run s (a :: as) = (act s a).bind (run · as) := by
  rw [run]; cases act s a <;> rfl

theorem arun_cons (s : St) (e : Ev) (es : List Ev) : arun s (e :: es) = (astep s e).bind (arun · es) := by
  rw [arun]; cases astep s e <;> rfl

theorem inv_run : ∀ (as : List Act) (s s' : St), Inv s → run s as = some s' → Inv s' :=
  Run.ind run_nil run_cons fun _ _ _ => inv_act

theorem reachable_inv (regs : List Reg) (as : List Act) (s : St) (h : run (init regs) as = some s) : Inv s :=
  inv_run as (init regs) s (inv_init regs) h

theorem guardPc_some {p : Pc → Bool} {t : Nat} {o : Option St} {s' : St} (h : guardPc p t o = some s') : o = some s' :=
  Lock.guard_some (g := guardPc p t) (fun _ => rfl) rfl h

/-- an accepted event of the replay is zero, one or two steps of the model -/
theorem astep_run (s s' : St) (e : Ev) (h : astep s e = some s') : ∃ as, run s as = some s' := by
  have one : ∀ {s1}, step s e.t = some s1 → ∃ as, run s as = some s1 := Run.ex_one run_nil run_cons (a := .step e.t)
  have two : ∀ {s2}, (step s e.t).bind (step · e.t) = some s2 → ∃ as, run s as = some s2 :=
    Run.ex_two run_nil run_cons (a := .step e.t) (b := .step e.t)
  unfold astep at h
  simp only at h
  -- one goal per arm of `astep`, in its order; beside each: the thread's program counter, the event
  split at h
  · rename_i op _ _; exact Run.ex_one run_nil run_cons (a := .call e.t op) h   -- idle, call
  · cases h; exact ⟨[], rfl⟩                                                    -- idle, ret
  · exact two h                                                                 -- aLock, lock
  · exact one h                                                                 -- aUnlock, unlock
  · exact two h                                                                 -- rLock, lock
  · exact one h                                                                 -- rUnlock, unlock
  · exact two h                                                                 -- cLock, lock
  · exact one h                                                                 -- cUnlock, unlock
  · exact one h                                                                 -- oLock, lock
  · exact one (guardPc_some h)                                               -- oLoop, cbBegin
  · split at h                                                                  -- oCb, cbEnd
    · exact one h
    · cases h
  · obtain ⟨s1, h1, h2⟩ := Option.bind_eq_some_iff.mp h                         -- oLoop, unlock: the loop ends, then the unlock
    exact two (by rw [guardPc_some h1]; exact h2)
  · cases h                                                                     -- any other pair is refused

theorem arun_run : ∀ (es : List Ev) (s s' : St), arun s es = some s' → ∃ as, run s as = some s' :=
  Run.of_refines run_nil run_cons (fun _ => rfl) arun_cons astep_run

/-- an accepted replay of a real execution only ever takes steps of the model -/
theorem inv_arun (regs : List Reg) (es : List Ev) (s : St) (h : arun (init regs) es = some s) : Inv s := by
  obtain ⟨as, h1⟩ := arun_run es (init regs) s h
  exact reachable_inv regs as s h1

end Otel.ObsRegLock
