import OtelVerif.Model.Attr
/-! Last write wins (used by C04 and C13): a field that a fold of setters overwrites or leaves alone holds the last value
written, a keyed store holds per key the last value written to that key; `SAttr.Map` is such a store with distinct keys. -/
namespace Otel.SAttr

theorem foldl_last {σ α β : Type} (step : σ → α → σ) (proj : σ → β) (sel : α → Option β)
    (h : ∀ s a, proj (step s a) = (sel a).getD (proj s)) (l : List α) (s : σ) :
    proj (l.foldl step s) = ((l.filterMap sel).getLast?).getD (proj s) := by
  induction l generalizing s with
  | nil => rfl
  | cons a t ih =>
    rw [List.foldl_cons, ih, h, List.filterMap_cons]
    cases sel a with
    | none => rfl
    | some b => simp [List.getLast?_cons]

/-- SPEC: the value of the last write to `k` in a sequence of writes (hand-written from "last write wins per key") -/
def lastWrite {α : Type} (k : Bytes) (ws : List (Bytes × α)) : Option α := ((ws.filter (fun kv => kv.1 = k)).getLast?).map (·.2)

theorem lastWrite_nil {α : Type} (k : Bytes) : lastWrite (α := α) k [] = none := rfl

theorem lastWrite_append {α : Type} (k : Bytes) (a b : List (Bytes × α)) :
    lastWrite k (a ++ b) = match lastWrite k b with
      | some v => some v
      | none => lastWrite k a := by
  unfold lastWrite
  rw [List.filter_append, List.getLast?_append]
  cases (b.filter _).getLast? <;> rfl

theorem lastWrite_append_one {α : Type} (k : Bytes) (ws : List (Bytes × α)) (kv : Bytes × α) :
    lastWrite k (ws ++ [kv]) = if kv.1 = k then some kv.2 else lastWrite k ws := by
  rw [lastWrite_append]
  by_cases h : kv.1 = k <;> simp [lastWrite, h]

theorem lastWrite_cons {α : Type} (k : Bytes) (kv : Bytes × α) (ws : List (Bytes × α)) :
    lastWrite k (kv :: ws) = match lastWrite k ws with
      | some v => some v
      | none => if kv.1 = k then some kv.2 else none := by
  rw [← List.singleton_append, lastWrite_append]
  by_cases h : kv.1 = k <;> simp [lastWrite, h]

theorem lastWrite_none_iff {α : Type} (k : Bytes) (ws : List (Bytes × α)) : lastWrite k ws = none ↔ k ∉ ws.map (·.1) := by
  rw [lastWrite, Option.map_eq_none_iff, List.getLast?_eq_none_iff, List.filter_eq_nil_iff]
  simp only [decide_eq_true_eq, List.mem_map, not_exists, not_and]

/-- in any store where a `lookup` after a `set` finds the value just set under its key and the old content under every
    other key, a sequence of writes refines to "last write wins per key" on top of the initial content -/
theorem lookup_foldl_set {M V W : Type} (lookup : Bytes → M → Option V) (set : Bytes → V → M → M)
    (hset : ∀ k k' v m, lookup k' (set k v m) = if k = k' then some v else lookup k' m)
    (f : W → V) (k : Bytes) (ws : List (Bytes × W)) (m0 : M) :
    lookup k (ws.foldl (fun m w => set w.1 (f w.2) m) m0) =
      match lastWrite k ws with
      | some w => some (f w)
      | none => lookup k m0 := by
  induction ws generalizing m0 with
  | nil => rfl
  | cons w t ih =>
    rw [List.foldl_cons, ih, lastWrite_cons, hset]
    cases lastWrite k t with
    | some v => rfl
    | none => by_cases hk : w.1 = k <;> simp [hk]

namespace Map

theorem lookup_set (k k' : Bytes) (v : Owned) (m : Map) :
    lookup k' (set k v m) = if k = k' then some v else lookup k' m := by
  induction m with
  | nil => rfl
  | cons e t ih =>
    obtain ⟨k2, v2⟩ := e
    by_cases h : k2 = k
    · by_cases h' : k = k' <;> simp [set, lookup, h, h']
    · by_cases h' : k2 = k'
      · subst h'; simp [set, lookup, h, Ne.symm h]
      · simp [set, lookup, h, h', ih]

theorem lookup_eq_none_iff (k : Bytes) (m : Map) : lookup k m = none ↔ k ∉ m.keys := by
  induction m with
  | nil => simp [lookup, keys]
  | cons e t ih =>
    obtain ⟨k2, v2⟩ := e
    by_cases h : k2 = k
    · simp [lookup, keys, h]
    · simpa [lookup, keys, h, Ne.symm h] using ih

theorem keys_set (k : Bytes) (v : Owned) (m : Map) :
    (set k v m).keys = if k ∈ m.keys then m.keys else m.keys ++ [k] := by
  induction m with
  | nil => rfl
  | cons e t ih =>
    obtain ⟨k2, v2⟩ := e
    by_cases h : k2 = k
    · simp [set, keys, h]
    · simp only [keys] at ih
      simp only [set, h, if_false, keys, List.map_cons, ih, List.mem_cons, Ne.symm h, false_or]
      split <;> simp [*]

theorem nodup_set (k : Bytes) (v : Owned) (m : Map) (h : m.keys.Nodup) : (set k v m).keys.Nodup := by
  rw [keys_set]
  split
  · exact h
  · rename_i hk
    exact List.nodup_append.mpr ⟨h, List.pairwise_singleton _ k, fun a ha b hb e => hk (List.mem_singleton.mp hb ▸ e ▸ ha)⟩

theorem lookup_foldl_setAttribute (k : Bytes) (ws : List (Bytes × Value)) (m0 : Map) :
    lookup k (ws.foldl (fun m kv => m.setAttribute kv.1 kv.2) m0) =
      match lastWrite k ws with
      | some v => some (convert v)
      | none => lookup k m0 :=
  (lookup_foldl_set lookup set lookup_set convert k ws m0).trans (by cases lastWrite k ws <;> rfl)

theorem nodup_foldl_setAttribute (ws : List (Bytes × Value)) (m0 : Map) (h : m0.keys.Nodup) :
    (ws.foldl (fun m kv => m.setAttribute kv.1 kv.2) m0).keys.Nodup := by
  induction ws generalizing m0 with
  | nil => exact h
  | cons kv t ih => exact ih _ (nodup_set _ _ _ h)

/-- the map built from an iterable (`AttributeMap(const KeyValueIterable&)`): per key the last pair wins -/
theorem lookup_ofIterable (k : Bytes) (kvs : List (Bytes × Value)) :
    lookup k (ofIterable kvs) = (lastWrite k kvs).map convert := by
  rw [ofIterable, lookup_foldl_setAttribute]
  cases lastWrite k kvs <;> rfl

theorem nodup_ofIterable (kvs : List (Bytes × Value)) : (ofIterable kvs).keys.Nodup :=
  nodup_foldl_setAttribute kvs [] List.nodup_nil

end Map
end Otel.SAttr
