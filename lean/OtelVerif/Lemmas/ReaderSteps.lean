import OtelVerif.Lemmas.Reader
/-! The transitions of the worker and of the collect thread, one constructor per program point and outcome, and the
invariant along them.  `Lemmas/ReaderLive.lean` reads the ranks off the same two lists. -/
namespace Otel.Reader
open Otel.Ring (upd upd_same upd_other)

/-- the worker's transitions: `wStep` and the wake-up from `cv_.wait_for` -/
inductive WTr (s : St) : St → Prop
  | start (hpc : s.wpc = .start) : WTr s { s with wpc := .spawn s.pending, cycFloor := s.recorded, cancel := false }
  | spawn (n : Nat) (hpc : s.wpc = .spawn n) (hc : s.cpc = .none) : WTr s { s with wpc := .waitF n, cpc := .produce }
  | timeout (n : Nat) (hpc : s.wpc = .waitF n) : WTr s { s with cancel := true, wpc := .joinC n }
  | ready (n : Nat) (hpc : s.wpc = .waitF n) (hc : s.cpc = .fin) : WTr s { s with wpc := .joinC n }
  | join (n : Nat) (hpc : s.wpc = .joinC n) (hc : s.cpc = .fin) : WTr s { s with cpc := .none, wpc := .pubLd n }
  | load (n : Nat) (hpc : s.wpc = .pubLd n) (hgt : n > s.notified) : WTr s { s with wpc := .pubCas n s.notified }
  | skip (n : Nat) (hpc : s.wpc = .pubLd n) (hle : ¬ n > s.notified) : WTr s { s with wpc := .cvwait }
  | cas (n v : Nat) (hpc : s.wpc = .pubCas n v) (heq : s.notified = v) : WTr s { s with notified := n }
  | retry (n v : Nat) (hpc : s.wpc = .pubCas n v) (hne : ¬ s.notified = v) (hgt : n > s.notified) :
      WTr s { s with wpc := .pubCas n s.notified }
  | leave (n v : Nat) (hpc : s.wpc = .pubCas n v) (hne : ¬ s.notified = v) (hle : ¬ n > s.notified) :
      WTr s { s with wpc := .cvwait }
  | wake (hpc : s.wpc = .cvwait) : WTr s { s with wpc := .loopChk }
  | loop (hpc : s.wpc = .loopChk) : WTr s { s with wpc := if s.shutdown then .done else .start }

theorem wtr_of_wStep {s s' : St} {t : Bool} (h : step s (.wStep t) = some s') : WTr s s' := by
  simp only [step, wStep] at h
  split at h
  · next hpc => cases h; exact .start hpc
  · next n hpc =>
    split at h
    · next hc => cases h; exact .spawn n hpc hc
    · cases h
  · next n hpc =>
    split at h
    · cases h; exact .timeout n hpc
    · split at h
      · next hc => cases h; exact .ready n hpc hc
      · cases h
  · next n hpc =>
    split at h
    · next hc => cases h; exact .join n hpc hc
    · cases h
  · next n hpc =>
    split at h
    · next hgt => cases h; exact .load n hpc hgt
    · next hle => cases h; exact .skip n hpc hle
  · next n v hpc =>
    split at h
    · next heq => cases h; exact .cas n v hpc heq
    · next hne =>
      split at h
      · next hgt => cases h; exact .retry n v hpc hne hgt
      · next hle => cases h; exact .leave n v hpc hne hle
  · cases h
  · next hpc => cases h; exact .loop hpc
  · cases h

theorem wtr_of_wWake {s s' : St} (h : step s .wWake = some s') : WTr s s' := by
  simp only [step] at h
  split at h
  · next hpc => cases h; exact .wake hpc
  · cases h

inductive CTr (s : St) : St → Prop
  | produce (hpc : s.cpc = .produce) : CTr s { s with cpc := .cancelChk s.recorded }
  | cancelled (p : Nat) (hpc : s.cpc = .cancelChk p) (hx : s.cancel = true) : CTr s { s with skipped := true, cpc := .fin }
  | go (p : Nat) (hpc : s.cpc = .cancelChk p) (hx : ¬ s.cancel = true) : CTr s { s with cpc := .exportB p }
  | exportB (p : Nat) (hpc : s.cpc = .exportB p) :
      CTr s { s with inExport := s.inExport + 1, lateExports := if s.sdReturned then s.lateExports + 1 else s.lateExports,
                     cpc := .exportE p }
  | exportE (p : Nat) (hpc : s.cpc = .exportE p) :
      CTr s { s with inExport := s.inExport - 1, covered := if p > s.covered then p else s.covered, cpc := .fin }

theorem ctr_of_cStep {s s' : St} (h : step s .cStep = some s') : CTr s s' := by
  simp only [step, cStep] at h
  split at h
  · cases h
  · next hpc => cases h; exact .produce hpc
  · next p hpc =>
    split at h
    · next hx => cases h; exact .cancelled p hpc hx
    · next hx => cases h; exact .go p hpc hx
  · next p hpc => cases h; exact .exportB p hpc
  · next p hpc => cases h; exact .exportE p hpc
  · cases h

theorem WInv_cases {s : St} (hw : WInv s) :
    (∃ n, (s.wpc = .waitF n ∨ s.wpc = .joinC n) ∧ n ≤ s.pending ∧ (1 ≤ n → s.tickRec n ≤ s.cycFloor) ∧ CInv s) ∨
    ((∀ n, s.wpc ≠ .waitF n ∧ s.wpc ≠ .joinC n) ∧ s.cpc = .none ∧ s.inExport = 0) := by
  cases hpc : s.wpc with
  | waitF n => simp only [WInv, hpc] at hw; exact .inl ⟨n, .inl rfl, hw⟩
  | joinC n => simp only [WInv, hpc] at hw; exact .inl ⟨n, .inr rfl, hw⟩
  | start | cvwait | loopChk =>
    simp only [WInv, hpc] at hw; exact .inr ⟨fun n => ⟨WPc.noConfusion, WPc.noConfusion⟩, hw.1, hw.2⟩
  | done | spawn n | pubLd n | pubCas n v =>          -- here `inExport = 0` is followed by more
    simp only [WInv, hpc] at hw; exact .inr ⟨fun n => ⟨WPc.noConfusion, WPc.noConfusion⟩, hw.1, hw.2.1⟩

/-- the collect thread is alive only while the worker waits for / joins it -/
theorem cpc_none_of (s : St) (hw : WInv s) (h : ∀ n, s.wpc ≠ .waitF n ∧ s.wpc ≠ .joinC n) : s.cpc = .none := by
  rcases WInv_cases hw with ⟨n, hn | hn, _⟩ | ⟨_, hc, _⟩
  · exact absurd hn (h n).1
  · exact absurd hn (h n).2
  · exact hc

/-- the collect thread moves only while the worker waits for / joins it -/
theorem CTr.waited {s s' : St} (h : CTr s s') (hw : WInv s) :
    ∃ n, (s.wpc = .waitF n ∨ s.wpc = .joinC n) ∧ n ≤ s.pending ∧ (1 ≤ n → s.tickRec n ≤ s.cycFloor) ∧ CInv s := by
  rcases WInv_cases hw with hw | ⟨_, hc, _⟩
  · exact hw
  · cases h with
    | produce hpc | cancelled _ hpc _ | go _ hpc _ | exportB _ hpc | exportE _ hpc => rw [hpc] at hc; cases hc

theorem inv_record (s : St) (hI : Inv s) : Inv { s with recorded := s.recorded + 1 } := by
  refine ⟨hI.notLe, Nat.le_succ_of_le hI.covLe, Nat.le_succ_of_le hI.cycLe, fun t a b => Nat.le_succ_of_le (hI.tickLe t a b),
    hI.tickMono, hI.ticks, ?_, ?_, ?_, hI.joinedD, hI.retd, hI.late⟩
  · exact WInv_frame hI.w (hrec := Nat.le_succ _)
  · intro f; exact FInv_frame f (hI.f f) (hrec := Nat.le_succ _)
  · intro i; exact SInv_frame i (hI.sd i)

/-- a worker step touches only its own program counter, the collect thread's, the cancel flag, `cycFloor` and `notified`:
    what is left to show is the worker's own invariant (`hw`) and, where `cycFloor` or `notified` moves (by default they do
    not), `hcy`, or `hnot` and that the tickets `notified` now covers are served (`hticks`) -/
theorem inv_wlocal {s : St} (hI : Inv s) (hnd : s.wpc ≠ .done) {w : WPc} {c : CPc} {x : Bool} {y n : Nat}
    (hw : WInv { s with wpc := w, cpc := c, cancel := x, cycFloor := y, notified := n })
    (hcy : y ≤ s.recorded := by exact hI.cycLe)
    (hnot : s.notified ≤ n ∧ n ≤ s.pending := by exact ⟨Nat.le_refl _, hI.notLe⟩)
    (hticks : ∀ t, 1 ≤ t → t ≤ n → (s.tickRec t ≤ s.covered ∨ s.skipped = true) := by exact hI.ticks) :
    Inv { s with wpc := w, cpc := c, cancel := x, cycFloor := y, notified := n } := by
  refine ⟨hnot.2, hI.covLe, hcy, hI.tickLe, hI.tickMono, hticks, hw, ?_, ?_, ?_, hI.retd, hI.late⟩
  · intro f; exact FInv_frame f (hI.f f) (hnot := hnot.1)
  · intro i; exact SInv_frame i (hI.sd i)
  · intro h1; exact absurd (hI.joinedD h1) hnd

theorem inv_wtr {s s' : St} (hI : Inv s) (h : WTr s s') : Inv s' := by
  have hw := hI.w
  have hnd : s.wpc ≠ .done := by cases h <;> simp [*]
  cases h with
  | start hpc =>
    simp only [WInv, hpc] at hw
    refine inv_wlocal hI hnd ?_ (hcy := Nat.le_refl _)
    simp only [WInv]
    exact ⟨hw.1, hw.2, Nat.le_refl _, fun hn => hI.tickLe _ hn (Nat.le_refl _)⟩
  | spawn n hpc hc =>
    simp only [WInv, hpc] at hw
    obtain ⟨_, hexp, hle, htk⟩ := hw
    refine inv_wlocal hI hnd ?_
    simp only [WInv, CInv]
    exact ⟨hle, htk, hexp⟩
  | timeout _ hpc | ready _ hpc _ | wake hpc =>
    simp only [WInv, hpc] at hw
    exact inv_wlocal hI hnd (by simp only [WInv]; exact hw)
  | join n hpc hc =>
    simp only [WInv, hpc, CInv, hc, Done] at hw
    obtain ⟨hle, htk, hexp, hdone⟩ := hw
    refine inv_wlocal hI hnd ?_
    simp only [WInv]
    refine ⟨trivial, hexp, hle, fun hn => ?_⟩
    -- the cycle's snapshot was taken after ticket `n` was issued, and has been exported or skipped
    have := htk hn
    rcases hdone with hd | hd
    · left; omega
    · right; exact hd
  | load n hpc hgt =>
    simp only [WInv, hpc] at hw
    obtain ⟨hnone, hexp, hle, htk⟩ := hw
    exact inv_wlocal hI hnd (by simp only [WInv]; exact ⟨hnone, hexp, hle, htk, hgt⟩)
  | cas n v hpc heq =>
    simp only [WInv, hpc] at hw
    obtain ⟨hnone, hexp, hle, htk, hlt⟩ := hw
    have hnl := hI.notLe
    refine inv_wlocal hI hnd ?_ (hnot := ⟨by omega, hle⟩) (hticks := ?_)
    · simp only [WInv, hpc]; exact ⟨hnone, hexp, hle, htk, hlt⟩
    · -- ticket `n` is served, and so is every earlier one
      intro t h1 h2
      have hm := hI.tickMono t n h1 h2 hle
      rcases htk (by omega) with hc | hc
      · left; omega
      · right; exact hc
  | retry n v hpc hne hgt =>
    simp only [WInv, hpc] at hw
    obtain ⟨hnone, hexp, hle, htk, _⟩ := hw
    exact inv_wlocal hI hnd (by simp only [WInv]; exact ⟨hnone, hexp, hle, htk, hgt⟩)
  | skip _ hpc _ | leave _ _ hpc _ _ =>
    simp only [WInv, hpc] at hw
    exact inv_wlocal hI hnd (by simp only [WInv]; exact ⟨hw.1, hw.2.1⟩)
  | loop hpc =>
    simp only [WInv, hpc] at hw
    refine inv_wlocal hI hnd ?_
    simp only [WInv]
    cases hsd : s.shutdown
    · exact hw
    · exact ⟨hw.1, hw.2, rfl⟩

/-- a step of the collect thread, taken while the worker waits for / joins it (`hwpc`, `hle`, `htk`): it touches its own
    program counter, the `Export` ghosts, `covered` and `skipped`; the worker's invariant changes only in `CInv` (`hc`) -/
theorem inv_clocal {s : St} (hI : Inv s) {n : Nat} (hwpc : s.wpc = .waitF n ∨ s.wpc = .joinC n) (hle : n ≤ s.pending)
    (htk : 1 ≤ n → s.tickRec n ≤ s.cycFloor) {c : CPc} {sk : Bool} {ie le cv : Nat}
    (hc : CInv { s with cpc := c, skipped := sk, inExport := ie, lateExports := le, covered := cv })
    (hcov : s.covered ≤ cv ∧ cv ≤ s.recorded := by exact ⟨Nat.le_refl _, hI.covLe⟩)
    (hsk : s.skipped = true → sk = true := by exact id) (hlate : le = 0 := by exact hI.late) :
    Inv { s with cpc := c, skipped := sk, inExport := ie, lateExports := le, covered := cv } := by
  have hw : WInv { s with cpc := c, skipped := sk, inExport := ie, lateExports := le, covered := cv } := by
    unfold WInv
    rcases hwpc with e | e <;> (simp only [e]; exact ⟨hle, htk, hc⟩)
  refine ⟨hI.notLe, hcov.2, hI.cycLe, hI.tickLe, hI.tickMono, ?_, hw, ?_, ?_, hI.joinedD, hI.retd, hlate⟩
  · intro t h1 h2
    rcases hI.ticks t h1 h2 with hh | hh
    · left; exact Nat.le_trans hh hcov.1
    · right; exact hsk hh
  · intro f; exact FInv_frame f (hI.f f) (hcov := hcov.1) (hskip := hsk)
  · intro i; exact SInv_frame i (hI.sd i)

theorem inv_ctr {s s' : St} (hI : Inv s) (h : CTr s s') : Inv s' := by
  obtain ⟨n, hwpc, hle, htk, hc⟩ := h.waited hI.w
  -- the worker is waiting for / joining the collect thread, so no `Shutdown` has returned
  have hnr : s.sdReturned = false := by
    cases hh : s.sdReturned with
    | false => rfl
    | true => rcases hwpc with e | e <;> (have := hI.joinedD (hI.retd hh); rw [e] at this; cases this)
  have hcl := hI.covLe
  cases h with
  | produce hpc =>
    simp only [CInv, hpc] at hc
    exact inv_clocal hI hwpc hle htk (by simp only [CInv]; exact ⟨hc, hI.cycLe, Nat.le_refl _⟩)
  | cancelled p hpc hx =>
    simp only [CInv, hpc] at hc
    exact inv_clocal hI hwpc hle htk (by simp only [CInv]; exact ⟨hc.1, Or.inr rfl⟩) (hsk := fun _ => rfl)
  | go p hpc hx =>
    simp only [CInv, hpc] at hc
    exact inv_clocal hI hwpc hle htk (by simp only [CInv]; exact hc)
  | exportB p hpc =>
    simp only [CInv, hpc] at hc
    obtain ⟨hexp, hfl, hrec⟩ := hc
    exact inv_clocal hI hwpc hle htk (by simp only [CInv]; exact ⟨by rw [hexp], hfl, hrec⟩) (hlate := by simp [hnr, hI.late])
  | exportE p hpc =>
    simp only [CInv, hpc] at hc
    obtain ⟨hexp, hfl, hrec⟩ := hc
    refine inv_clocal hI hwpc hle htk ?_ (hcov := ⟨?_, ?_⟩)
    · simp only [CInv, Done]
      refine ⟨by rw [hexp], Or.inl ?_⟩
      split <;> omega
    · split <;> omega
    · split <;> omega

end Otel.Reader
