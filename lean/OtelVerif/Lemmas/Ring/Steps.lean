import OtelVerif.Lemmas.Ring.Inv
import OtelVerif.Lemmas.Run
/-! `Ring.Inv` is preserved by every action: the producer-local steps, the consumer's steps, the swap, the head CAS, the
    undo, and then along every run. -/
namespace Otel.Ring

/-- A step of producer `p` alone that writes only its own entry of `prods` (and ghost fields `Inv` does not read) and
    keeps what `p` holds: nothing, or the same slot with the same element. -/
theorem inv_keep {s : St} {p : Nat} {v : Prod} {fl : List Nat} {n : Nat} {o : Nat → Nat} (hI : Inv s)
    (held_eq : held v.pc = held (pcOf s p)) (elem_eq : held v.pc ≠ none → v.elem = elOf s p) (pcOk : PcOk s v.pc) :
    Inv { s with prods := upd s.prods p v, fails := fl, nextId := n, own := o } := by
  let s' : St := { s with prods := upd s.prods p v, fails := fl, nextId := n, own := o }
  have hT : ∀ q k, Tent s' q k ↔ Tent s q k := fun q k => by
    rw [tent_iff, tent_iff, pcOf_upd (s' := s') rfl]; split
    · rename_i hq; rw [held_eq, hq]
    · rfl
  have hE : ∀ q k, Tent s q k → elOf s' q = elOf s q := fun q k hq => by
    rw [elOf_upd (s' := s') rfl]; split
    · rename_i hqp; subst hqp
      obtain ⟨h, hh, _⟩ := tent_iff.1 hq
      exact elem_eq (by rw [held_eq, hh]; exact nofun)
    · rfl
  obtain ⟨c1, c2, c3, c4⟩ := pcOk_iff.1 (hI.pcOk_upd (s' := s') rfl rfl (Nat.le_refl _) (Nat.le_refl _) pcOk)
  exact show Inv s' from
  { hI with
    casLe := c1, casBound := c2, ldHeadLe := c3, swapOk := c4
    slotOwn := fun k e hk => by
      rcases hI.slotOwn k e hk with hc | ⟨q, hq, he⟩
      · exact .inl hc
      · exact .inr ⟨q, (hT q k).2 hq, by rw [hE q k hq]; exact he⟩
    tentSlot := fun q k hq => by
      have hq' := (hT q k).1 hq
      rw [hE q k hq']; exact hI.tentSlot q k hq'
    tentUniq := fun q r k hq hr => hI.tentUniq q r k ((hT q k).1 hq) ((hT r k).1 hr) }

/-- `inv_keep` for a producer that holds no slot before or after the step -/
theorem inv_local {s : St} {p : Nat} {v : Prod} (hI : Inv s) (held_old : held (pcOf s p) = none)
    (held_new : held v.pc = none) (pcOk : PcOk s v.pc) : Inv { s with prods := upd s.prods p v } :=
  inv_keep hI (held_eq := held_new.trans held_old.symm) (elem_eq := fun h => absurd held_new h) (pcOk := pcOk)

/-- Producer `p` writes slot `k`, which neither a committed index nor another producer owns: it puts its element in and
    holds `k` from then on, or takes it out and holds nothing. -/
theorem inv_slot {s : St} {p k : Nat} {pc : PPc} {v : Option Nat} (hI : Inv s) (free : ¬ Committed s k)
    (others : ∀ q, Tent s q k → q = p) (old : ∀ k', Tent s p k' → k' = k)
    (new : ∀ k', (∃ h, held pc = some h ∧ h % s.cap = k') → k' = k ∧ v = some (elOf s p))
    (put : ∀ e, v = some e → ∃ h, held pc = some h ∧ h % s.cap = k) (pcOk : PcOk s pc) :
    Inv { s with slots := upd s.slots k v, prods := setPc s p pc } := by
  let s1 : St := { s with slots := upd s.slots k v, prods := setPc s p pc }
  have hT : ∀ q k', Tent s1 q k' ↔ if q = p then ∃ h, held pc = some h ∧ h % s.cap = k' else Tent s q k' :=
    tent_setPc (s' := s1) rfl rfl
  have hE : ∀ q, elOf s1 q = elOf s q := elOf_setPc (s' := s1) rfl
  obtain ⟨c1, c2, c3, c4⟩ := pcOk_iff.1 (hI.pcOk_upd (s' := s1) rfl rfl (Nat.le_refl _) (Nat.le_refl _) pcOk)
  -- the slots of the other owners are not `k`
  have hoth : ∀ {q k'}, q ≠ p → Tent s q k' → k' ≠ k := fun hqp hq e => hqp (others _ (e ▸ hq))
  exact show Inv s1 from
  { hI with
    casLe := c1, casBound := c2, ldHeadLe := c3, swapOk := c4
    commit := fun i hi hi' => by
      have hne : i % s.cap ≠ k := fun heq => free ⟨i, hi, hi', heq⟩
      show upd s.slots _ _ _ = _
      rw [upd_other _ _ _ _ hne]; exact hI.commit i hi hi'
    slotOwn := fun k' e hk => by
      have hk' : upd s.slots k v k' = some e := hk
      by_cases hkk : k' = k
      · subst hkk; rw [upd_same] at hk'
        have hp := put e hk'
        have he := (new _ hp).2; rw [hk'] at he; cases he
        exact .inr ⟨p, (hT p _).2 (by rw [if_pos rfl]; exact hp), hE p⟩
      · rw [upd_other _ _ _ _ hkk] at hk'
        rcases hI.slotOwn k' e hk' with hc | ⟨q, hq, he⟩
        · exact .inl hc
        · have hqp : q ≠ p := fun e => hkk (old k' (e ▸ hq))
          exact .inr ⟨q, (hT q k').2 (by rw [if_neg hqp]; exact hq), by rw [hE]; exact he⟩
    tentSlot := fun q k' hq => by
      have hq' := (hT q k').1 hq
      rw [hE]
      split at hq'
      · rename_i hqp; subst hqp
        obtain ⟨rfl, hv⟩ := new k' hq'
        exact ⟨(upd_same _ _ _).trans hv, free⟩
      · obtain ⟨h1, h2⟩ := hI.tentSlot q k' hq'
        exact ⟨by show upd s.slots _ _ _ = _; rw [upd_other _ _ _ _ (hoth ‹_› hq')]; exact h1, h2⟩
    tentUniq := fun q r k' hq hr => by
      have hq' := (hT q k').1 hq
      have hr' := (hT r k').1 hr
      split at hq' <;> split at hr'
      · rename_i hqp hrp; rw [hqp, hrp]
      · exact absurd (new k' hq').1 (hoth ‹_› hr')
      · exact absurd (new k' hr').1 (hoth ‹_› hq')
      · exact hI.tentUniq q r k' hq' hr' }

theorem inv_pStart (s s' : St) (p : Nat) (hI : Inv s) (h : step s (.pStart p) = some s') : Inv s' := by
  obtain ⟨hpc, rfl⟩ := step_pStart.1 h
  exact inv_keep hI (held_eq := by rw [hpc]; rfl) (elem_eq := nofun) (pcOk := trivial)

theorem inv_pLdTail (s s' : St) (p : Nat) (hI : Inv s) (h : step s (.pLdTail p) = some s') : Inv s' := by
  obtain ⟨hpc, rfl⟩ := step_pLdTail.1 h
  exact inv_local hI (held_old := by rw [hpc]; rfl) (held_new := rfl) (pcOk := Nat.le_refl s.tail)

theorem inv_pLdHead (s s' : St) (p : Nat) (hI : Inv s) (h : step s (.pLdHead p) = some s') : Inv s' := by
  obtain ⟨t, hpc, rfl⟩ := step_pLdHead.1 h
  have htl : t ≤ s.tail := hI.ldHeadLe p t hpc
  split
  · exact inv_keep hI (held_eq := by rw [hpc]; rfl) (elem_eq := nofun) (pcOk := trivial)
  · rename_i hroom
    exact inv_local hI (held_old := by rw [hpc]; rfl) (held_new := rfl)
      (pcOk := ⟨htl, Nat.le_refl _, Nat.lt_of_not_le hroom⟩)

theorem inv_cTake (s s' : St) (n : Nat) (hI : Inv s) (h : step s (.cTake n) = some s') : Inv s' := by
  obtain ⟨⟨hclr, hn⟩, rfl⟩ := step_cTake.1 h
  obtain ⟨c1, c2, c3, c4⟩ := (pcOk_iff (s := { s with tail := s.tail + n })).1 fun q =>
    PcOk.mono (s := s) rfl (Nat.le_refl _) (Nat.le_add_right _ n) (hI.pcOk q)
  exact
  { hI with
    casLe := c1, casBound := c2, ldHeadLe := c3, swapOk := c4
    clrLe := Nat.le_trans hI.clrLe (Nat.le_add_right _ n)
    tailLe := Nat.add_le_of_le_sub' hI.tailLe hn
    sizeLe := Nat.le_trans (Nat.sub_le_sub_left (Nat.le_add_right _ n) _) hI.sizeLe }

theorem inv_cClear (s s' : St) (hI : Inv s) (h : step s .cClear = some s') :
    Inv s' ∧ s.slots (s.clr % s.cap) ≠ none := by
  obtain ⟨hlt, rfl⟩ := step_cClear.1 h
  have hclrHead : s.clr < s.head := Nat.lt_of_lt_of_le hlt hI.tailLe
  -- the slot of index `clr` holds `log[clr]`
  have hslot := hI.commit s.clr (Nat.le_refl _) hclrHead
  have hlen : s.clr < s.log.length := hI.logLen ▸ hclrHead
  have hget : s.log[s.clr]? = some s.log[s.clr] := List.getElem?_eq_getElem hlen
  rw [hget] at hslot
  rw [hslot]
  refine ⟨?_, nofun⟩
  exact
  { hI with
    clrLe := hlt
    winInj := fun i j hi hi' hj hj' hij =>
      hI.winInj i j (Nat.le_of_succ_le hi) hi' (Nat.le_of_succ_le hj) hj' hij
    commit := fun i hi hi' => by
      have hi0 : s.clr + 1 ≤ i := hi
      have hne : i % s.cap ≠ s.clr % s.cap := fun heq =>
        Nat.ne_of_gt hi0 (hI.winInj i s.clr (Nat.le_of_succ_le hi0) hi' (Nat.le_refl _) hclrHead heq)
      show upd s.slots (s.clr % s.cap) none (i % s.cap) = s.log[i]?
      rw [upd_other _ _ _ _ hne]
      exact hI.commit i (Nat.le_of_succ_le hi0) hi'
    slotOwn := fun k e hk => by
      have hk' : upd s.slots (s.clr % s.cap) none k = some e := hk
      have hne : k ≠ s.clr % s.cap := by
        intro heq; rw [heq, upd_same] at hk'; cases hk'
      rw [upd_other _ _ _ _ hne] at hk'
      rcases hI.slotOwn k e hk' with ⟨i, h1, h2, h3⟩ | hp
      · have : i ≠ s.clr := fun e => hne (e ▸ h3.symm)
        exact .inl ⟨i, Nat.lt_of_le_of_ne h1 (Ne.symm this), h2, h3⟩
      · exact .inr hp
    tentSlot := fun p k hT => by
      obtain ⟨h1, h2⟩ := hI.tentSlot p k hT
      have hne : k ≠ s.clr % s.cap := fun heq => h2 ⟨s.clr, Nat.le_refl _, hclrHead, heq.symm⟩
      refine ⟨?_, fun ⟨i, hi1, hi2, hi3⟩ => h2 ⟨i, Nat.le_of_succ_le hi1, hi2, hi3⟩⟩
      show upd s.slots (s.clr % s.cap) none k = some (elOf s p)
      rw [upd_other _ _ _ _ hne]; exact h1
    outEq := by
      show s.out ++ [s.log[s.clr]] = s.log.take (s.clr + 1)
      rw [hI.outEq, List.take_add_one, hget]
      rfl }

theorem inv_pSwap (s s' : St) (p : Nat) (spur : Bool) (hI : Inv s)
    (h : step s (.pSwap p spur) = some s') : Inv s' := by
  obtain ⟨t, hh, hpc, rfl⟩ := step_pSwap.1 h
  split
  · -- the slot was null: nobody owned it, now `p` holds it
    rename_i hcond
    have hnull := hcond.1
    have hsw := hI.swapOk p t hh hpc
    refine inv_slot hI (free := ?_) (others := fun q hq => ?_) (old := fun k' hk' => ?_)
      (new := by rintro k' ⟨i, hi, rfl⟩; cases hi; exact ⟨rfl, rfl⟩) (put := fun _ _ => ⟨hh, rfl, rfl⟩)
      (pcOk := ⟨hsw.2.1, Nat.lt_of_le_of_lt (Nat.sub_le_sub_left hsw.1 hh) hsw.2.2⟩)
    · rintro ⟨i, h1, h2, h3⟩
      have := hI.commit i h1 h2
      rw [h3, hnull, List.getElem?_eq_getElem (hI.logLen ▸ h2)] at this
      cases this
    · have := (hI.tentSlot q _ hq).1; rw [hnull] at this; cases this
    · obtain ⟨i, hi, _⟩ := tent_iff.1 hk'; rw [hpc] at hi; cases hi
  · exact inv_local hI (held_old := by rw [hpc]; rfl) (held_new := rfl) (pcOk := trivial)

theorem inv_pCas (s s' : St) (p : Nat) (spur : Bool) (hI : Inv s)
    (h : step s (.pCas p spur) = some s') : Inv s' := by
  obtain ⟨hh, hpc, rfl⟩ := step_pCas.1 h
  split
  · -- index `head` is committed: the slot `p` held tentatively becomes its home
    rename_i hcond
    obtain ⟨rfl, -⟩ := hcond
    let s1 : St := { s with head := s.head + 1, log := s.log ++ [(s.prods p).elem], prods := setPc s p .idle }
    show Inv s1
    have hT : ∀ q k, Tent s1 q k ↔ q ≠ p ∧ Tent s q k := fun q k => by
      rw [tent_setPc (s' := s1) rfl rfl]; split <;> simp [held, *]
    have hE : ∀ q, elOf s1 q = elOf s q := elOf_setPc (s' := s1) rfl
    obtain ⟨c1, c2, c3, c4⟩ := pcOk_iff.1 (hI.pcOk_upd (s' := s1) rfl rfl (Nat.le_succ _) (Nat.le_refl _) trivial)
    have hlen := hI.logLen
    have hTp : Tent s p (s.head % s.cap) := tent_of_held (by rw [hpc]; rfl)
    obtain ⟨hslotp, hnotC⟩ := hI.tentSlot p _ hTp
    have hsplit : ∀ {i}, i < s1.head → i < s.head ∨ i = s.head := fun h =>
      Nat.lt_or_eq_of_le (Nat.le_of_lt_succ h)
    have hC : ∀ k, Committed s1 k ↔ (Committed s k ∨ k = s.head % s.cap) := by
      intro k; constructor
      · rintro ⟨i, h1, h2, h3⟩
        rcases hsplit h2 with hlt | rfl
        · exact .inl ⟨i, h1, hlt, h3⟩
        · exact .inr h3.symm
      · rintro (⟨i, h1, h2, h3⟩ | hk)
        · exact ⟨i, h1, Nat.lt_succ_of_lt h2, h3⟩
        · exact ⟨s.head, Nat.le_trans hI.clrLe hI.tailLe, Nat.lt_succ_self _, hk.symm⟩
    exact
    { hI with
      casLe := c1, casBound := c2, ldHeadLe := c3, swapOk := c4
      tailLe := Nat.le_succ_of_le hI.tailLe
      sizeLe := by
        show s.head + 1 - s.tail ≤ s.cap - 1
        rw [Nat.succ_sub hI.tailLe]; exact hI.casBound p _ hpc
      logLen := by
        show (s.log ++ [(s.prods p).elem]).length = s.head + 1
        rw [List.length_append, hlen]; rfl
      winInj := fun i j hi hi' hj hj' hij => by
        -- no older committed index lives in the slot of `head`, since `p` held it
        rcases hsplit hi' with hil | rfl <;> rcases hsplit hj' with hjl | rfl
        · exact hI.winInj i j hi hil hj hjl hij
        · exact absurd ⟨i, hi, hil, hij⟩ hnotC
        · exact absurd ⟨j, hj, hjl, hij.symm⟩ hnotC
        · rfl
      commit := fun i hi hi' => by
        show s.slots (i % s.cap) = (s.log ++ [(s.prods p).elem])[i]?
        rcases hsplit hi' with hil | rfl
        · rw [List.getElem?_append_left (hlen ▸ hil)]; exact hI.commit i hi hil
        · have : (s.log ++ [(s.prods p).elem])[s.head]? = some (s.prods p).elem := by
            rw [← hlen]; exact List.getElem?_concat_length
          rw [this, hslotp]; rfl
      slotOwn := fun k e hk => by
        rcases hI.slotOwn k e hk with hc | ⟨q, hq, he⟩
        · exact .inl ((hC k).2 (.inl hc))
        · by_cases hqp : q = p
          · subst hqp
            obtain ⟨i, hi, hik⟩ := tent_iff.1 hq
            rw [hpc] at hi; cases hi
            exact .inl ((hC k).2 (.inr hik.symm))
          · exact .inr ⟨q, (hT q k).2 ⟨hqp, hq⟩, by rw [hE]; exact he⟩
      tentSlot := fun q k hq => by
        obtain ⟨hqp, hq'⟩ := (hT q k).1 hq
        obtain ⟨h1, h2⟩ := hI.tentSlot q k hq'
        refine ⟨by rw [hE]; exact h1, fun hc => ?_⟩
        rcases (hC k).1 hc with hc | hk
        · exact h2 hc
        · subst hk; exact hqp (hI.tentUniq q p _ hq' hTp)
      tentUniq := fun q r k hq hr => hI.tentUniq q r k ((hT q k).1 hq).2 ((hT r k).1 hr).2
      outEq := by
        show s.out = (s.log ++ [(s.prods p).elem]).take s.clr
        rw [List.take_append_of_le_length (hlen ▸ Nat.le_trans hI.clrLe hI.tailLe)]; exact hI.outEq }
  · -- `head` has moved (or spurious failure): `p` still holds the slot and goes to undo the swap
    exact inv_keep hI (held_eq := by rw [hpc]; rfl) (elem_eq := fun _ => rfl) (pcOk := hI.casLe p hh (.inl hpc))

theorem inv_pUndo (s s' : St) (p : Nat) (hI : Inv s) (h : step s (.pUndo p) = some s') : Inv s' := by
  obtain ⟨hh, hpc, rfl⟩ := step_pUndo.1 h
  -- `p` was the only owner of the slot it gives up
  have hTp : Tent s p (hh % s.cap) := tent_of_held (by rw [hpc]; rfl)
  exact inv_slot hI (free := (hI.tentSlot p _ hTp).2) (others := fun q hq => hI.tentUniq q p _ hq hTp)
    (old := fun k' hk' => by obtain ⟨i, hi, rfl⟩ := tent_iff.1 hk'; rw [hpc] at hi; cases hi; rfl)
    (new := by rintro k' ⟨i, hi, -⟩; cases hi) (put := nofun) (pcOk := trivial)

theorem inv_step (s s' : St) (a : Act) (hI : Inv s) (h : step s a = some s') : Inv s' := by
  cases a with
  | pStart p => exact inv_pStart s s' p hI h
  | pLdTail p => exact inv_pLdTail s s' p hI h
  | pLdHead p => exact inv_pLdHead s s' p hI h
  | pSwap p spur => exact inv_pSwap s s' p spur hI h
  | pCas p spur => exact inv_pCas s s' p spur hI h
  | pUndo p => exact inv_pUndo s s' p hI h
  | cTake n => exact inv_cTake s s' n hI h
  | cClear => exact (inv_cClear s s' hI h).1

/-- run a schedule; `none` if some action is not enabled -/
def run (s : St) : List Act → Option St
  | [] => some s
  | a :: as => match step s a with
    | some s' => run s' as
    | none => none

theorem run_ind {P : St → Prop} (hP : ∀ s s' a, P s → step s a = some s' → P s') :
    ∀ (as : List Act) (s s' : St), P s → run s as = some s' → P s' :=
  Run.ind (fun _ => rfl) (fun s a as => by simp only [run]; cases step s a <;> rfl) hP

theorem inv_run (s s' : St) (as : List Act) (hI : Inv s) (h : run s as = some s') : Inv s' :=
  run_ind inv_step as s s' hI h

/-- **Every schedule, any number of producers, any capacity ≥ 2 (max_size ≥ 1):**
    what the consumer has taken out is exactly the first `clr` committed elements, in commit order. -/
theorem consumed_is_log_prefix (cap : Nat) (hc : 2 ≤ cap) (as : List Act) (s : St)
    (h : run (init cap) as = some s) : s.out = s.log.take s.clr :=
  (inv_run _ _ as (inv_init cap hc) h).outEq

theorem cap_step (s s' : St) (a : Act) (h : step s a = some s') : s'.cap = s.cap := by
  cases a with
  | pStart p => obtain ⟨-, rfl⟩ := step_pStart.1 h; rfl
  | pLdTail p => obtain ⟨-, rfl⟩ := step_pLdTail.1 h; rfl
  | pLdHead p => obtain ⟨t, -, rfl⟩ := step_pLdHead.1 h; split <;> rfl
  | pSwap p spur => obtain ⟨t, i, -, rfl⟩ := step_pSwap.1 h; split <;> rfl
  | pCas p spur => obtain ⟨i, -, rfl⟩ := step_pCas.1 h; split <;> rfl
  | pUndo p => obtain ⟨i, -, rfl⟩ := step_pUndo.1 h; rfl
  | cTake n => obtain ⟨-, rfl⟩ := step_cTake.1 h; rfl
  | cClear => obtain ⟨-, rfl⟩ := step_cClear.1 h; split <;> rfl

theorem cap_run (s s' : St) (as : List Act) (h : run s as = some s') : s'.cap = s.cap :=
  run_ind (P := fun x => x.cap = s.cap) (fun x x' a hx hs => (cap_step x x' a hs).trans hx) as s s' rfl h

/-- the number of queued elements never exceeds `max_size = cap - 1` -/
theorem size_le_max (cap : Nat) (hc : 2 ≤ cap) (as : List Act) (s : St)
    (h : run (init cap) as = some s) : s.head - s.tail ≤ cap - 1 := by
  have hcap : s.cap = cap := cap_run _ _ as h
  rw [← hcap]; exact (inv_run _ _ as (inv_init cap hc) h).sizeLe

/-- the consumer never exchanges out an empty slot -/
theorem never_consumes_empty (cap : Nat) (hc : 2 ≤ cap) (as : List Act) (s s' : St)
    (h : run (init cap) as = some s) (h' : step s .cClear = some s') :
    s.slots (s.clr % s.cap) ≠ none :=
  (inv_cClear s s' (inv_run _ _ as (inv_init cap hc) h) h').2

end Otel.Ring
