import OtelVerif.Lemmas.Ring.Ghost
import OtelVerif.Lemmas.Pigeon
namespace Otel.Ring

/-- **Failure justification**, on the invariants.  If producer `p` is at its `head_` load and the full test
    `head - tail ≥ capacity_ - 1` succeeds on the values it read, then the `Add` calls begun so far, this one excluded
    (`nextId - 1`), minus the elements consumed before it began (`c0`) are at least `max_size = cap - 1`: the committed
    elements are distinct ids below `nextId`, none of them this `Add`'s own. -/
theorem full_justified {s : St} (hI : Inv s) (h2 : Inv2 s) {p t : Nat} (hpc : pcOf s p = .ldHead t)
    (hfull : s.head - t ≥ s.cap - 1) : (s.nextId - 1) - c0Of s p ≥ s.cap - 1 := by
  obtain ⟨f1, f2, -, -, -⟩ := h2.flight p (by rw [hpc]; exact nofun)
  have hc0 := h2.ldHeadC0 p t hpc
  have hlen : s.log.length < s.nextId := nodup_length_lt s.log s.nextId (elOf s p) h2.logNodup h2.logLt f1 f2
  have := hI.logLen
  omega

end Otel.Ring
