import OtelVerif.Lemmas.Ring.Ghost
import OtelVerif.Model.RingFine
/-! The fine-grained system (`Model/RingFine.lean`, what the harness steps) refines the ring transition system:
    every thread step is a `Ring.step` action or leaves the ring state untouched, and the consumer always meets
    `Consume`'s contract `n ≤ head_ - tail_`. -/
namespace Otel.RingFine
open Otel.Ring

def IsProd : Ring.Act → Prop
  | .pStart _ | .pLdTail _ | .pLdHead _ | .pSwap _ _ | .pCas _ _ | .pUndo _ => True
  | _ => False

theorem prod_frame (s s' : Ring.St) (a : Ring.Act) (ha : IsProd a) (h : Ring.step s a = some s') :
    s'.tail = s.tail ∧ s'.clr = s.clr ∧ s.head ≤ s'.head := by
  cases a with
  | pStart p => obtain ⟨-, rfl⟩ := step_pStart.1 h; exact ⟨rfl, rfl, Nat.le_refl _⟩
  | pLdTail p => obtain ⟨-, rfl⟩ := step_pLdTail.1 h; exact ⟨rfl, rfl, Nat.le_refl _⟩
  | pLdHead p => obtain ⟨t, -, rfl⟩ := step_pLdHead.1 h; split <;> exact ⟨rfl, rfl, Nat.le_refl _⟩
  | pSwap p spur => obtain ⟨t, i, -, rfl⟩ := step_pSwap.1 h; split <;> exact ⟨rfl, rfl, Nat.le_refl _⟩
  | pCas p spur =>
    obtain ⟨i, -, rfl⟩ := step_pCas.1 h
    split
    · rename_i hc; exact ⟨rfl, rfl, hc.1 ▸ Nat.le_succ _⟩
    · exact ⟨rfl, rfl, Nat.le_refl _⟩
  | pUndo p => obtain ⟨i, -, rfl⟩ := step_pUndo.1 h; exact ⟨rfl, rfl, Nat.le_refl _⟩
  | cTake n => exact ha.elim
  | cClear => exact ha.elim

/-- what the consumer's program counter knows about the ring -/
def CInv (r : Ring.St) : CPc → Prop
  | .idle | .szTail => r.clr = r.tail
  | .szHead t => r.clr = r.tail ∧ t = r.tail
  | .pkTail n | .pkHead n _ | .adv n => r.clr = r.tail ∧ 0 < n ∧ n ≤ r.head - r.tail
  | .clearing => r.clr < r.tail

theorem cinv_frame {r r' : Ring.St} {pc : CPc} (ht : r'.tail = r.tail) (hcl : r'.clr = r.clr) (hh : r.head ≤ r'.head)
    (h : CInv r pc) : CInv r' pc := by
  have hsub : r.head - r.tail ≤ r'.head - r.tail := Nat.sub_le_sub_right hh _
  cases pc <;> simp only [CInv, ht, hcl] at h ⊢
  case pkTail | pkHead | adv => exact ⟨h.1, h.2.1, Nat.le_trans h.2.2 hsub⟩
  all_goals exact h

theorem stepProd_ring (s s' : St) (p : Nat) (spur : Bool) (t : String) (h : stepProd s p spur = some (s', t)) :
    s'.cpc = s.cpc ∧ (s'.r = s.r ∨ ∃ a, Ring.step s.r a = some s'.r ∧ IsProd a) := by
  unfold stepProd at h
  by_cases h1 : p ≥ s.nprod
  · rw [if_pos h1] at h; cases h
  rw [if_neg h1] at h
  by_cases h2 : (!s.pstart p) = true
  · rw [if_pos h2] at h; cases h; exact ⟨rfl, Or.inl rfl⟩
  rw [if_neg h2] at h
  simp only at h
  revert h
  -- in every pc the thread takes the ring action of that pc (`idle`: unless it has no `Add` left)
  cases (s.r.prods p).pc <;> intro h <;> simp only at h
  case idle =>
    split at h
    · cases h
    · split at h <;> cases h
      rename_i hr; exact ⟨rfl, Or.inr ⟨_, hr, trivial⟩⟩
  case ldTail | swap | undo =>
    -- the ring step's result is returned as it is
    split at h <;> cases h
    rename_i hr; exact ⟨rfl, Or.inr ⟨_, hr, trivial⟩⟩
  case ldHead | cas =>
    -- only the trace and `rets` depend on whether this step returns from `Add`
    split at h
    · rename_i r' hr
      split at h <;> (cases h; exact ⟨rfl, Or.inr ⟨_, hr, trivial⟩⟩)
    · cases h

def FInv (s : St) : Prop := Ring.Inv s.r ∧ Ring.Inv2 s.r ∧ CInv s.r s.cpc

theorem finv_stepProd (s s' : St) (p : Nat) (spur : Bool) (t : String) (hI : FInv s)
    (h : stepProd s p spur = some (s', t)) : FInv s' := by
  obtain ⟨h1, h2, h3⟩ := hI
  obtain ⟨hc, hr⟩ := stepProd_ring s s' p spur t h
  rw [FInv, hc]
  rcases hr with hr | ⟨a, hr, ha⟩
  · rw [hr]; exact ⟨h1, h2, h3⟩
  · obtain ⟨f1, f2, f3⟩ := prod_frame s.r s'.r a ha hr
    exact ⟨Ring.inv_step _ _ a h1 hr, Ring.inv2_step _ _ a h1 h2 hr, cinv_frame f1 f2 f3 h3⟩

theorem finv_stepCons (s s' : St) (t : String) (hI : FInv s) (h : stepCons s = some (s', t)) : FInv s' := by
  obtain ⟨h1, h2, h3⟩ := hI
  unfold stepCons at h
  by_cases hst : (!s.cstart) = true
  · rw [if_pos hst] at h; cases h; exact ⟨h1, h2, h3⟩
  rw [if_neg hst] at h
  revert h
  cases hcpc : s.cpc <;> intro h <;> simp only at h <;> rw [hcpc] at h3
  case idle => split at h <;> cases h; exact ⟨h1, h2, h3⟩
  case szTail => cases h; exact ⟨h1, h2, h3, rfl⟩
  case szHead t0 =>
    obtain ⟨hct, ht0⟩ := h3
    split at h <;> cases h
    · exact ⟨h1, h2, hct⟩
    · rename_i hn
      have hn' : min (s.r.head - t0) s.creq ≠ 0 := by simpa using hn
      exact ⟨h1, h2, hct, Nat.pos_of_ne_zero hn', ht0 ▸ Nat.min_le_left _ _⟩
  case pkTail | pkHead => cases h; exact ⟨h1, h2, h3⟩
  case adv n =>
    obtain ⟨hct, hn0, hn⟩ := h3
    cases hr : Ring.step s.r (.cTake n) <;> rw [hr] at h <;> cases h
    refine ⟨Ring.inv_step _ _ _ h1 hr, Ring.inv2_step _ _ _ h1 h2 hr, ?_⟩
    obtain ⟨-, rfl⟩ := step_cTake.1 hr
    exact hct ▸ Nat.lt_add_of_pos_right hn0
  case clearing =>
    cases hr : Ring.step s.r .cClear <;> rw [hr] at h <;> cases h
    rename_i r'
    have hI' := Ring.inv_step _ _ _ h1 hr
    refine ⟨hI', Ring.inv2_step _ _ _ h1 h2 hr, ?_⟩
    show CInv r' (if (r'.clr == r'.tail) = true then .idle else .clearing)
    split
    · rename_i hfin; exact beq_iff_eq.1 hfin
    · rename_i hfin; exact Nat.lt_of_le_of_ne hI'.clrLe fun e => hfin (beq_iff_eq.2 e)

/-- the states the harness can reach: any schedule of thread steps (producers with or without spurious CAS failures,
    the consumer), from the initial state -/
inductive Reach (maxSize nprod adds creq rounds : Nat) : St → Prop where
  | init : Reach maxSize nprod adds creq rounds (init maxSize nprod adds creq rounds)
  | step (s s' : St) (i : Nat) (spur : Bool) (t : String) :
      Reach maxSize nprod adds creq rounds s → stepThread s i spur = some (s', t) → Reach maxSize nprod adds creq rounds s'

theorem reach_finv {maxSize nprod adds creq rounds : Nat} (h : 1 ≤ maxSize) {s : St}
    (hr : Reach maxSize nprod adds creq rounds s) : FInv s := by
  induction hr with
  | init => exact ⟨Ring.inv_init _ (Nat.succ_le_succ h), Ring.inv2_init _, rfl⟩
  | step s s' i spur t _ hs ih =>
    unfold stepThread at hs
    split at hs
    · exact finv_stepProd s s' i spur t ih hs
    · split at hs
      · exact finv_stepCons s s' t ih hs
      · cases hs

/-- **`Consume`'s contract is always met**: whenever the consumer is about to execute `tail_ += n`, the ring really
    holds at least `n` elements and the previous batch has been cleared (the `assert` in `Consume` cannot fire) -/
theorem consume_contract {maxSize nprod adds creq rounds : Nat} (h : 1 ≤ maxSize) {s : St}
    (hr : Reach maxSize nprod adds creq rounds s) (n : Nat) (hc : s.cpc = .adv n) :
    s.r.clr = s.r.tail ∧ n ≤ s.r.head - s.r.tail ∧ (Ring.step s.r (.cTake n)).isSome = true := by
  obtain ⟨-, -, h3⟩ := reach_finv h hr
  rw [hc] at h3
  obtain ⟨a, -, b⟩ := h3
  exact ⟨a, b, by rw [step_cTake.2 ⟨⟨a, b⟩, rfl⟩]; rfl⟩

end Otel.RingFine
