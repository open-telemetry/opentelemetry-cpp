import OtelVerif.Lemmas.Ring.Steps
/-! Ghost bookkeeping on top of `Ring.Inv`: element ids are fresh, the commit log has no duplicates, failed and
    in-flight elements are not in the log, per-producer commit order = call order, every started element is
    accounted for, and what a producer knew about consumption when its `Add` began. -/
namespace Otel.Ring

def c0Of (s : St) (p : Nat) : Nat := (s.prods p).c0

structure Inv2 (s : St) : Prop where
  logLt     : ∀ e ∈ s.log, e < s.nextId
  logNodup  : s.log.Nodup
  failsOk   : ∀ e ∈ s.fails, e < s.nextId ∧ e ∉ s.log
  flight    : ∀ p, pcOf s p ≠ .idle →
                elOf s p < s.nextId ∧ elOf s p ∉ s.log ∧ elOf s p ∉ s.fails ∧ s.own (elOf s p) = p ∧ c0Of s p ≤ s.clr
  distinct  : ∀ p q, p ≠ q → pcOf s p ≠ .idle → pcOf s q ≠ .idle → elOf s p ≠ elOf s q
  ldHeadC0  : ∀ p t, pcOf s p = .ldHead t → c0Of s p ≤ t
  ownSorted : ∀ p, (s.log.filter (fun e => s.own e == p)).Pairwise (· < ·)
  ownLe     : ∀ e ∈ s.log, e ≤ elOf s (s.own e)
  cover     : ∀ e, e < s.nextId → e ∈ s.log ∨ e ∈ s.fails ∨ ∃ p, pcOf s p ≠ .idle ∧ elOf s p = e

theorem inv2_init (cap : Nat) : Inv2 (init cap) := by
  refine ⟨?_, ?_, ?_, ?_, ?_, ?_, ?_, ?_, ?_⟩ <;> simp [init, pcOf, elOf]

theorem c0Of_upd {s s' : St} {p : Nat} {v : Prod} (h : s'.prods = upd s.prods p v) (q : Nat) :
    c0Of s' q = if q = p then v.c0 else c0Of s q := by
  unfold c0Of; rw [h]; exact apply_ite Prod.c0 _ _ _

theorem c0Of_setPc {s s' : St} {p : Nat} {pc : PPc} (h : s'.prods = setPc s p pc) (q : Nat) : c0Of s' q = c0Of s q := by
  rw [c0Of_upd h]; split
  · rename_i hq; rw [hq]; rfl
  · rfl

/-- A step that moves no element between the classes: the same producers are inside `Add` with the same elements, the
    ghost lists are untouched, `clr` may grow, a producer's `c0` may shrink (it does only under stale loads). -/
theorem inv2_frame {s s' : St} (h2 : Inv2 s) (clr_le : s.clr ≤ s'.clr)
    (idle_iff : ∀ q, pcOf s' q ≠ .idle ↔ pcOf s q ≠ .idle) (elem_eq : ∀ q, elOf s' q = elOf s q)
    (c0_le : ∀ q, c0Of s' q ≤ c0Of s q)
    (ldHead : ∀ q t, pcOf s' q = .ldHead t → pcOf s q = .ldHead t ∨ c0Of s' q ≤ t)
    (hlog : s'.log = s.log := by exact rfl) (hfails : s'.fails = s.fails := by exact rfl)
    (hnext : s'.nextId = s.nextId := by exact rfl) (hown : s'.own = s.own := by exact rfl) : Inv2 s' := by
  obtain ⟨logLt, logNodup, failsOk, flight, distinct, ldHeadC0, ownSorted, ownLe, cover⟩ := h2
  refine ⟨by rw [hlog, hnext]; exact logLt, by rw [hlog]; exact logNodup, by rw [hfails, hnext, hlog]; exact failsOk,
    ?_, ?_, ?_, by rw [hlog, hown]; exact ownSorted, ?_, ?_⟩
  · intro q hq
    obtain ⟨a, b, c, d, e⟩ := flight q ((idle_iff q).1 hq)
    rw [elem_eq, hnext, hlog, hfails, hown]
    exact ⟨a, b, c, d, Nat.le_trans (c0_le q) (Nat.le_trans e clr_le)⟩
  · intro q r hqr hq hr
    rw [elem_eq, elem_eq]
    exact distinct q r hqr ((idle_iff q).1 hq) ((idle_iff r).1 hr)
  · intro q t hq
    rcases ldHead q t hq with h | h
    · exact Nat.le_trans (c0_le q) (ldHeadC0 q t h)
    · exact h
  · intro e he
    rw [hlog] at he
    rw [hown, elem_eq]; exact ownLe e he
  · intro e he
    rw [hnext] at he
    rcases cover e he with h | h | ⟨q, hq, hqe⟩
    · exact .inl (hlog ▸ h)
    · exact .inr (.inl (hfails ▸ h))
    · exact .inr (.inr ⟨q, (idle_iff q).2 hq, by rw [elem_eq]; exact hqe⟩)

/-- the consumer's steps: no producer moves -/
theorem inv2_cons {s : St} {sl : Nat → Option Nat} {tl c : Nat} {o : List Nat} (h2 : Inv2 s) (clr_le : s.clr ≤ c) :
    Inv2 { s with slots := sl, tail := tl, clr := c, out := o } :=
  inv2_frame h2 clr_le (idle_iff := fun _ => Iff.rfl) (elem_eq := fun _ => rfl) (c0_le := fun _ => Nat.le_refl _)
    (ldHead := fun _ _ => .inl)

/-- producer `p` moves between two pcs inside `Add` and keeps its element; a slot may change hands -/
theorem inv2_move {s : St} {p : Nat} {v : Prod} {sl : Nat → Option Nat} (h2 : Inv2 s) (in_add : pcOf s p ≠ .idle)
    (stays : v.pc ≠ .idle := by exact nofun) (elem_eq : v.elem = elOf s p := by exact rfl)
    (c0_le : v.c0 ≤ c0Of s p := by exact Nat.le_refl _) (ldHead : ∀ t, v.pc = .ldHead t → v.c0 ≤ t := by exact nofun) :
    Inv2 { s with slots := sl, prods := upd s.prods p v } := by
  let s1 : St := { s with slots := sl, prods := upd s.prods p v }
  refine inv2_frame (s' := s1) h2 (Nat.le_refl _) (idle_iff := fun q => ?_) (elem_eq := fun q => ?_) (c0_le := fun q => ?_)
    (ldHead := fun q t hq => ?_)
  · rw [pcOf_upd rfl]; split
    · rename_i hq; rw [hq]; exact ⟨fun _ => in_add, fun _ => stays⟩
    · rfl
  · rw [elOf_upd rfl]; split
    · rename_i hq; rw [hq]; exact elem_eq
    · rfl
  · rw [c0Of_upd rfl]; split
    · rename_i hq; rw [hq]; exact c0_le
    · exact Nat.le_refl _
  · rw [pcOf_upd rfl] at hq; rw [c0Of_upd rfl]
    split at hq
    · rename_i hqp; rw [if_pos hqp]; exact .inr (ldHead t hq)
    · exact .inl hq

theorem inv2_pStart (s s' : St) (p : Nat) (h2 : Inv2 s) (h : step s (.pStart p) = some s') : Inv2 s' := by
  obtain ⟨hpc, rfl⟩ := step_pStart.1 h
  let v : Prod := { pc := .ldTail, elem := s.nextId, c0 := s.clr }
  let s1 : St := { s with prods := upd s.prods p v, nextId := s.nextId + 1, own := upd s.own s.nextId p }
  show Inv2 s1
  have hP : ∀ q, pcOf s1 q = if q = p then .ldTail else pcOf s q := pcOf_upd (s' := s1) rfl
  have hE : ∀ q, elOf s1 q = if q = p then s.nextId else elOf s q := elOf_upd (s' := s1) rfl
  have hC : ∀ q, c0Of s1 q = if q = p then s.clr else c0Of s q := c0Of_upd (s' := s1) rfl
  obtain ⟨logLt, logNodup, failsOk, flight, distinct, ldHeadC0, ownSorted, ownLe, cover⟩ := h2
  have hown_old : ∀ e, e < s.nextId → s1.own e = s.own e := fun e he =>
    upd_other _ _ _ _ (Nat.ne_of_lt he)
  have hold : ∀ q, q ≠ p → pcOf s1 q ≠ .idle → pcOf s q ≠ .idle := fun q hq h => by rwa [hP, if_neg hq] at h
  refine ⟨?_, logNodup, ?_, ?_, ?_, ?_, ?_, ?_, ?_⟩
  · exact fun e he => Nat.lt_succ_of_lt (logLt e he)
  · exact fun e he => ⟨Nat.lt_succ_of_lt (failsOk e he).1, (failsOk e he).2⟩
  · intro q hq
    rw [hE, hC]
    by_cases hqp : q = p
    · rw [if_pos hqp, if_pos hqp, hqp]
      exact ⟨Nat.lt_succ_self _, fun hm => Nat.lt_irrefl _ (logLt _ hm), fun hm => Nat.lt_irrefl _ (failsOk _ hm).1,
        upd_same _ _ _, Nat.le_refl _⟩
    · rw [if_neg hqp, if_neg hqp]
      obtain ⟨a, b, c, d, e⟩ := flight q (hold q hqp hq)
      exact ⟨Nat.lt_succ_of_lt a, b, c, by rw [hown_old _ a]; exact d, e⟩
  · -- the other producers' elements are older than the fresh id
    intro q r hqr hq hr
    rw [hE, hE]
    by_cases hqp : q = p <;> by_cases hrp : r = p
    · exact absurd (hqp.trans hrp.symm) hqr
    · rw [if_pos hqp, if_neg hrp]; exact Nat.ne_of_gt (flight r (hold r hrp hr)).1
    · rw [if_neg hqp, if_pos hrp]; exact Nat.ne_of_lt (flight q (hold q hqp hq)).1
    · rw [if_neg hqp, if_neg hrp]; exact distinct q r hqr (hold q hqp hq) (hold r hrp hr)
  · intro q t hq
    rw [hP] at hq; rw [hC]
    split at hq
    · cases hq
    · rw [if_neg ‹_›]; exact ldHeadC0 q t hq
  · intro q
    have : s1.log.filter (fun e => s1.own e == q) = s.log.filter (fun e => s.own e == q) :=
      List.filter_congr fun e he => by rw [hown_old e (logLt e he)]
    rw [this]; exact ownSorted q
  · intro e he
    rw [hown_old e (logLt e he), hE]
    split
    · exact Nat.le_of_lt (logLt e he)
    · exact ownLe e he
  · intro e he
    rcases Nat.lt_or_ge e s.nextId with hlt | hge
    · rcases cover e hlt with h | h | ⟨q, hq, hqe⟩
      · exact .inl h
      · exact .inr (.inl h)
      · have hqp : q ≠ p := fun e => hq (e ▸ hpc)
        exact .inr (.inr ⟨q, by rw [hP, if_neg hqp]; exact hq, by rw [hE, if_neg hqp]; exact hqe⟩)
    · have he' : e < s.nextId + 1 := he
      exact .inr (.inr ⟨p, by rw [hP, if_pos rfl]; exact nofun, by rw [hE, if_pos rfl]; omega⟩)

/-- `Add` returns: producer `p` goes idle and its element joins the commit log (`cm`) or, the queue being full, goes
    back to the caller (`fails`).  What is specific to the log (no duplicates, each producer's order) is left to the caller. -/
theorem inv2_retire {s s' : St} {p : Nat} {cm : Prop} (h2 : Inv2 s) (in_add : pcOf s p ≠ .idle)
    (hp : s'.prods = setPc s p .idle)
    (mem_log : ∀ e, e ∈ s'.log ↔ e ∈ s.log ∨ (e = elOf s p ∧ cm))
    (mem_fails : ∀ e, e ∈ s'.fails ↔ e ∈ s.fails ∨ (e = elOf s p ∧ ¬ cm))
    (nodup : s'.log.Nodup) (sorted : ∀ q, (s'.log.filter (fun e => s.own e == q)).Pairwise (· < ·))
    (own_le : ∀ e ∈ s'.log, e ≤ elOf s (s.own e))
    (hnext : s'.nextId = s.nextId := by exact rfl) (hown : s'.own = s.own := by exact rfl)
    (hclr : s'.clr = s.clr := by exact rfl) : Inv2 s' := by
  have hP : ∀ q, pcOf s' q = if q = p then .idle else pcOf s q := pcOf_setPc hp
  have hE : ∀ q, elOf s' q = elOf s q := elOf_setPc hp
  have hC : ∀ q, c0Of s' q = c0Of s q := c0Of_setPc hp
  -- the producers still inside `Add` are the others that were
  have hF : ∀ {q}, pcOf s' q ≠ .idle → q ≠ p ∧ pcOf s q ≠ .idle := fun {q} hq => by
    rw [hP] at hq; split at hq
    · exact absurd rfl hq
    · exact ⟨‹_›, hq⟩
  obtain ⟨logLt, -, failsOk, flight, distinct, ldHeadC0, -, -, cover⟩ := h2
  obtain ⟨fa, fb, fc, -, -⟩ := flight p in_add
  refine ⟨fun e he => ?_, nodup, fun e he => ?_, fun q hq => ?_, fun q r hqr hq hr => ?_, fun q t hq => ?_,
    hown ▸ sorted, fun e he => ?_, fun e he => ?_⟩
  · rw [hnext]
    rcases (mem_log e).1 he with he | ⟨rfl, -⟩
    · exact logLt e he
    · exact fa
  · rw [hnext]
    rcases (mem_fails e).1 he with he | ⟨rfl, hcm⟩
    · refine ⟨(failsOk e he).1, fun hm => ?_⟩
      rcases (mem_log e).1 hm with hm | ⟨rfl, -⟩
      · exact (failsOk e he).2 hm
      · exact fc he
    · refine ⟨fa, fun hm => ?_⟩
      rcases (mem_log _).1 hm with hm | ⟨-, h⟩
      · exact fb hm
      · exact hcm h
  · obtain ⟨hqp, hq'⟩ := hF hq
    obtain ⟨a, b, c, d, e⟩ := flight q hq'
    rw [hE, hC, hnext, hown, hclr]
    refine ⟨a, fun hm => ?_, fun hm => ?_, d, e⟩
    · rcases (mem_log _).1 hm with hm | ⟨hm, -⟩
      · exact b hm
      · exact distinct q p hqp hq' in_add hm
    · rcases (mem_fails _).1 hm with hm | ⟨hm, -⟩
      · exact c hm
      · exact distinct q p hqp hq' in_add hm
  · rw [hE, hE]; exact distinct q r hqr (hF hq).2 (hF hr).2
  · have hq' := hq
    rw [hP] at hq'; split at hq'
    · cases hq'
    · rw [hC]; exact ldHeadC0 q t hq'
  · rw [hown, hE]; exact own_le e he
  · rw [hnext] at he
    rcases cover e he with h | h | ⟨q, hq, hqe⟩
    · exact .inl ((mem_log e).2 (.inl h))
    · exact .inr (.inl ((mem_fails e).2 (.inl h)))
    · by_cases hqp : q = p
      · have hel : e = elOf s p := by rw [← hqe, hqp]
        by_cases hcm : cm
        · exact .inl ((mem_log e).2 (.inr ⟨hel, hcm⟩))
        · exact .inr (.inl ((mem_fails e).2 (.inr ⟨hel, hcm⟩)))
      · exact .inr (.inr ⟨q, by rw [hP, if_neg hqp]; exact hq, by rw [hE]; exact hqe⟩)

/-- `Add` returns false: the element goes back to the caller (class `fails`) -/
theorem inv2_fail (s : St) (p t : Nat) (h2 : Inv2 s) (hpc : pcOf s p = .ldHead t) :
    Inv2 { s with prods := setPc s p .idle, fails := (s.prods p).elem :: s.fails } :=
  inv2_retire (cm := False) h2 (in_add := by rw [hpc]; exact nofun) (hp := rfl) (mem_log := fun e => by simp)
    (mem_fails := fun e => by show e ∈ elOf s p :: s.fails ↔ _; simp [or_comm])
    (nodup := h2.logNodup) (sorted := h2.ownSorted) (own_le := h2.ownLe)

/-- the head CAS succeeds: the element is committed (class `log`) and `Add` returns true -/
theorem inv2_commit (s : St) (p h : Nat) (h2 : Inv2 s) (hpc : pcOf s p = .cas h) :
    Inv2 { s with head := h + 1, log := s.log ++ [(s.prods p).elem], prods := setPc s p .idle } := by
  have hne : pcOf s p ≠ .idle := by rw [hpc]; exact nofun
  obtain ⟨-, fb, -, fd, -⟩ := h2.flight p hne
  have hmem : ∀ e, e ∈ s.log ++ [elOf s p] ↔ e ∈ s.log ∨ e = elOf s p := fun e => by
    rw [List.mem_append, List.mem_singleton]
  refine inv2_retire (cm := True) h2 (in_add := hne) (hp := rfl) (mem_log := fun e => by rw [and_true]; exact hmem e)
    (mem_fails := fun e => by simp) (nodup := ?_) (sorted := fun q => ?_) (own_le := fun e he => ?_)
  · show (s.log ++ [elOf s p]).Nodup
    rw [List.nodup_append]
    refine ⟨h2.logNodup, List.pairwise_singleton _ _, fun a ha b hb e => ?_⟩
    rw [List.mem_singleton.1 hb] at e
    exact fb (e ▸ ha)
  · -- the new element is `p`'s own and larger than what `p` has committed before
    show ((s.log ++ [elOf s p]).filter (fun e => s.own e == q)).Pairwise (· < ·)
    rw [List.filter_append]
    by_cases hq : q = p
    · subst hq
      have : [elOf s q].filter (fun e => s.own e == q) = [elOf s q] := by simp [fd]
      rw [this, List.pairwise_append]
      refine ⟨h2.ownSorted q, List.pairwise_singleton _ _, fun a ha b hb => ?_⟩
      rw [List.mem_singleton.1 hb]
      have ha' := List.mem_filter.1 ha
      have hown : s.own a = q := by simpa using ha'.2
      have hle := h2.ownLe a ha'.1
      rw [hown] at hle
      exact Nat.lt_of_le_of_ne hle fun e => fb (e ▸ ha'.1)
    · have : [elOf s p].filter (fun e => s.own e == q) = [] := by
        simp [fd]; exact fun e => hq e.symm
      rw [this, List.append_nil]; exact h2.ownSorted q
  · rcases (hmem e).1 he with he | rfl
    · exact h2.ownLe e he
    · rw [fd]; exact Nat.le_refl _

theorem inv2_step (s s' : St) (a : Act) (hI : Inv s) (h2 : Inv2 s) (h : step s a = some s') : Inv2 s' := by
  cases a with
  | pStart p => exact inv2_pStart s s' p h2 h
  | pLdTail p =>
    obtain ⟨hpc, rfl⟩ := step_pLdTail.1 h
    have hne : pcOf s p ≠ .idle := by rw [hpc]; exact nofun
    refine inv2_move h2 (in_add := hne) (ldHead := fun t ht => ?_)
    cases ht
    exact Nat.le_trans (h2.flight p hne).2.2.2.2 hI.clrLe
  | pLdHead p =>
    obtain ⟨t, hpc, rfl⟩ := step_pLdHead.1 h
    split
    · exact inv2_fail s p t h2 hpc
    · exact inv2_move h2 (in_add := by rw [hpc]; exact nofun)
  | pSwap p spur =>
    obtain ⟨t, i, hpc, rfl⟩ := step_pSwap.1 h
    split
    · exact inv2_move h2 (in_add := by rw [hpc]; exact nofun)
    · exact inv2_move h2 (in_add := by rw [hpc]; exact nofun)
  | pCas p spur =>
    obtain ⟨i, hpc, rfl⟩ := step_pCas.1 h
    split
    · exact inv2_commit s p i h2 hpc
    · exact inv2_move h2 (in_add := by rw [hpc]; exact nofun)
  | pUndo p =>
    obtain ⟨i, hpc, rfl⟩ := step_pUndo.1 h
    exact inv2_move h2 (in_add := by rw [hpc]; exact nofun)
  | cTake n =>
    obtain ⟨-, rfl⟩ := step_cTake.1 h
    exact inv2_cons h2 (clr_le := Nat.le_refl _)
  | cClear =>
    obtain ⟨-, rfl⟩ := step_cClear.1 h
    split <;> exact inv2_cons h2 (clr_le := Nat.le_succ _)

/-- an element whose `Add` returned false is in no slot: a slot's content is committed or in flight, a failed element
    is neither -/
theorem failed_not_in_slot {s : St} (hI : Inv s) (h2 : Inv2 s) {e : Nat} (he : e ∈ s.fails) (k : Nat) :
    s.slots k ≠ some e := by
  intro hk
  rcases hI.slotOwn k e hk with ⟨i, hi1, hi2, hik⟩ | ⟨p, hp, hpe⟩
  · have := hI.commit i hi1 hi2
    rw [hik, hk] at this
    exact (h2.failsOk e he).2 (List.mem_of_getElem? this.symm)
  · obtain ⟨i, hi, -⟩ := tent_iff.1 hp
    have hne : pcOf s p ≠ .idle := fun h => by rw [h] at hi; cases hi
    exact (h2.flight p hne).2.2.1 (hpe ▸ he)

theorem reachable_inv (cap : Nat) (hc : 2 ≤ cap) (as : List Act) (s : St) (h : run (init cap) as = some s) :
    Inv s ∧ Inv2 s :=
  run_ind (P := fun x => Inv x ∧ Inv2 x) (fun x x' a hx hs => ⟨inv_step x x' a hx.1 hs, inv2_step x x' a hx.1 hx.2 hs⟩)
    as _ s ⟨inv_init cap hc, inv2_init cap⟩ h

end Otel.Ring
