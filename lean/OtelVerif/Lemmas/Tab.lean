import OtelVerif.Lemmas.Bytes
/-! Lifting lemmas for the table theorems of `Props/Tab*.lean`. -/
namespace Otel

theorem forall_byte2 (P : UInt8 → UInt8 → Prop) (h : ∀ a, a < 256 → ∀ b, b < 256 → P (UInt8.ofNat a) (UInt8.ofNat b)) :
    ∀ a b : UInt8, P a b := by
  intro a b
  have := h a.toNat a.toNat_lt b.toNat b.toNat_lt
  simpa using this

/-- a function on bytes equals a 256-entry list table as soon as the list of its values is that list -/
theorem eq_table {α : Type} (f : UInt8 → α) (tab : List α) (d : α)
    (h : (List.range 256).map (fun n => f (UInt8.ofNat n)) = tab) : ∀ b : UInt8, f b = tab.getD b.toNat d := by
  intro b
  subst h
  have hb := b.toNat_lt
  simp [List.getD, hb]

/-- Every entry of a table packed in chunks is a point of the function's graph, as soon as every chunk checks.
    The chunks are reached through their index: the kernel takes `chunks.getD i` of a literal list of long numerals
    in time linear in `i`, whereas recursing over that list itself (`all`, `flatMap`) costs it time quadratic in its length. -/
theorem graph_of_chunks {β : Type} [BEq β] [LawfulBEq β] (f : List UInt8 → β) (g : Nat × Nat → List (List UInt8 × β))
    (chunks : List (Nat × Nat))
    (h : (List.range chunks.length).all (fun i => (g (chunks.getD i (0, 0))).all fun p => f p.1 == p.2) = true) :
    ∀ p ∈ chunks.flatMap g, f p.1 = p.2 := by
  intro p hp
  obtain ⟨c, hc, hpc⟩ := List.mem_flatMap.1 hp
  obtain ⟨i, hi, rfl⟩ := List.getElem_of_mem hc
  have := List.all_eq_true.1 h i (List.mem_range.2 hi)
  rw [List.getD_eq_getElem?_getD, List.getElem?_eq_getElem hi] at this
  exact eq_of_beq (List.all_eq_true.1 this p hpc)

end Otel
