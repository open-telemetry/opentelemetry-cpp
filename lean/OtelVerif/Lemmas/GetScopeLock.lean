import OtelVerif.Model.GetScopeLock
import OtelVerif.Lemmas.LockDiscipline
/-! The inductive invariant of the get-or-create protocol (`Model/GetScopeLock.lean`) and its preservation by every step of
    every thread (any number of threads, any number of requests). -/
namespace Otel.GetScopeLock
open Otel.Ring (upd upd_same upd_other)

/-- what the program counter of thread `t` says about the shared state -/
def TInv (s : St) (t : Nat) : Prop :=
  match s.pc t with
  | .idle => True
  | .gLock _ => True
  | .gScan _ => s.lock = some t
  | .gCreate k => s.lock = some t ∧ ∀ e, e ∈ s.list → e.key ≠ k
  | .gPush k e => s.lock = some t ∧ (∀ e', e' ∈ s.list → e'.key ≠ k) ∧ e.key = k ∧ e.id < s.next ∧ ∀ e', e' ∈ s.list → e'.id ≠ e.id
  | .gHave k e => s.lock = some t ∧ e ∈ s.list ∧ e.key = k
  | .gOut k e => e ∈ s.list ∧ e.key = k

/-- the part of the invariant that is about the shared state alone -/
structure GInv (s : St) : Prop where
  keys : (s.list.map (·.key)).Nodup
  ids : (s.list.map (·.id)).Nodup
  fresh : ∀ e, e ∈ s.list → e.id < s.next
  rets : ∀ r, r ∈ s.rets → r.ent ∈ s.list ∧ r.ent.key = r.key

def Inv (s : St) : Prop := GInv s ∧ ∀ t, TInv s t

theorem inv_init : Inv init :=
  ⟨⟨List.nodup_nil, List.nodup_nil, fun _ h => (nomatch h), fun _ h => (nomatch h)⟩, fun _ => trivial⟩

theorem GInv_congr {s s' : St} (h : GInv s) (hl : s'.list = s.list) (hn : s'.next = s.next) (hr : s'.rets = s.rets) : GInv s' :=
  ⟨hl ▸ h.keys, hl ▸ h.ids, hl ▸ hn ▸ h.fresh, hl ▸ hr ▸ h.rets⟩

/-- the invariant of a thread other than the stepping one: if it holds the lock, the stepping thread changes neither the
    lock nor the list nor the allocation counter; if it does not, it only needs its object to stay in the list -/
theorem TInv_frame {s s' : St} {t' : Nat} (hpc : s'.pc t' = s.pc t')
    (hfr : s.lock = some t' → s'.lock = some t' ∧ s'.list = s.list ∧ s'.next = s.next)
    (hmono : ∀ e, e ∈ s.list → e ∈ s'.list) (h : TInv s t') : TInv s' t' := by
  unfold TInv at h ⊢
  rw [hpc]
  generalize s.pc t' = p at h ⊢
  cases p with
  | idle | gLock => trivial
  | gScan => exact (hfr h).1
  | gCreate | gPush => rw [(hfr h.1).2.1, (hfr h.1).2.2]; exact ⟨(hfr h.1).1, h.2⟩
  | gHave => exact ⟨(hfr h.1).1, hmono _ h.2.1, h.2.2⟩
  | gOut => exact ⟨hmono _ h.1, h.2⟩

/-- `TInv` at a known program counter: on a state all of whose threads stand at `p` the `match` computes, so the right
    side is, by unfolding, the clause of `p` -/
theorem TInv_at {s : St} {t : Nat} {p : Pc} (hp : s.pc t = p) : TInv s t ↔ TInv { s with pc := fun _ => p } t := by
  unfold TInv; rw [hp]

/-- thread `t` moves to `p'`: the shared part and its own clause are established anew; the clause of any other thread
    stands because the list only grew and, if that thread holds the lock, lock, list and counter are as they were -/
theorem inv_upd {s s' : St} {t : Nat} {p' : Pc} (hI : Inv s) (hG : GInv s') (hpc : s'.pc = upd s.pc t p')
    (hfr : ∀ t', t' ≠ t → s.lock = some t' → s'.lock = some t' ∧ s'.list = s.list ∧ s'.next = s.next)
    (hmono : ∀ e, e ∈ s.list → e ∈ s'.list) (hself : TInv { s' with pc := fun _ => p' } t) : Inv s' := by
  refine ⟨hG, fun t' => ?_⟩
  by_cases ht : t' = t
  · rw [ht]; exact (TInv_at (by rw [hpc, upd_same])).mpr hself
  · exact TInv_frame (by rw [hpc, upd_other _ _ _ _ ht]) (hfr t' ht) hmono (hI.2 t')

theorem inv_call {s s' : St} {t : Nat} {k : Nat} (hI : Inv s) (h : call s t k = some s') : Inv s' := by
  unfold call at h
  split at h
  · cases h
    exact inv_upd hI (GInv_congr hI.1 rfl rfl rfl) rfl (fun _ _ hl => ⟨hl, rfl, rfl⟩) (fun _ he => he) trivial
  · cases h

theorem lookup_some {l : List Ent} {k : Nat} {e : Ent} (h : lookup l k = some e) : e ∈ l ∧ e.key = k := by
  unfold lookup at h
  exact ⟨List.mem_of_find?_eq_some h, by simpa using List.find?_some h⟩

theorem lookup_none {l : List Ent} {k : Nat} (h : lookup l k = none) : ∀ e, e ∈ l → e.key ≠ k := by
  unfold lookup at h
  intro e he
  simpa using List.find?_eq_none.mp h e he

theorem nodup_map_append_single {α : Type} (f : Ent → α) (l : List Ent) (e : Ent) (hn : (l.map f).Nodup)
    (hne : ∀ e', e' ∈ l → f e' ≠ f e) : ((l ++ [e]).map f).Nodup := by
  rw [List.map_append, List.nodup_append]
  refine ⟨hn, by simp, ?_⟩
  intro a ha b hb
  obtain ⟨e', he', rfl⟩ := List.mem_map.mp ha
  simp only [List.map_cons, List.map_nil, List.mem_singleton] at hb
  subst hb
  exact hne e' he'

/-- `step`, action by action: the relation all the case analyses below are made on -/
inductive Step (s : St) (t : Nat) : St → Prop
  | lock {k} : s.pc t = .gLock k → s.lock = none → Step s t { s with lock := some t, pc := upd s.pc t (.gScan k) }
  | found {k e} : s.pc t = .gScan k → lookup s.list k = some e → Step s t { s with pc := upd s.pc t (.gHave k e) }
  | missed {k} : s.pc t = .gScan k → lookup s.list k = none → Step s t { s with pc := upd s.pc t (.gCreate k) }
  | create {k} : s.pc t = .gCreate k → Step s t { s with next := s.next + 1, pc := upd s.pc t (.gPush k ⟨k, s.next⟩) }
  | push {k e} : s.pc t = .gPush k e → Step s t { s with list := s.list ++ [e], pc := upd s.pc t (.gHave k e) }
  | unlock {k e} : s.pc t = .gHave k e → Step s t { s with lock := none, pc := upd s.pc t (.gOut k e) }
  | ret {k e} : s.pc t = .gOut k e → Step s t { s with rets := s.rets ++ [⟨t, k, e⟩], pc := upd s.pc t .idle }

theorem step_Step {s s' : St} {t : Nat} (h : step s t = some s') : Step s t s' := by
  unfold step at h
  split at h <;> (try split at h) <;> cases h <;> constructor <;> assumption

theorem inv_step {s s' : St} {t : Nat} (hI : Inv s) (h : step s t = some s') : Inv s' := by
  have hG := hI.1
  have hth := hI.2 t
  unfold TInv at hth
  have same : ∀ {s1 : St}, s1.list = s.list → s1.next = s.next → s1.rets = s.rets → GInv s1 := GInv_congr hG
  cases step_Step h with
  | lock hp hl =>
    exact inv_upd hI (same rfl rfl rfl) rfl (Lock.others_of_free hl) (fun _ he => he) rfl
  | found hp hl =>
    rw [hp] at hth
    exact inv_upd hI (same rfl rfl rfl) rfl (Lock.others_of_holder hth) (fun _ he => he)
      ⟨hth, lookup_some hl⟩
  | missed hp hl =>
    rw [hp] at hth
    exact inv_upd hI (same rfl rfl rfl) rfl (Lock.others_of_holder hth) (fun _ he => he)
      ⟨hth, lookup_none hl⟩
  | create hp =>
    rw [hp] at hth
    exact inv_upd hI ⟨hG.keys, hG.ids, fun e he => Nat.lt_succ_of_lt (hG.fresh e he), hG.rets⟩ rfl
      (Lock.others_of_holder hth.1) (fun _ he => he)
      ⟨hth.1, hth.2, rfl, Nat.lt_succ_self _, fun e' he' => Nat.ne_of_lt (hG.fresh e' he')⟩
  | @push k e hp =>
    rw [hp] at hth
    obtain ⟨hl, hnk, hek, hlt, hid⟩ := hth
    refine inv_upd hI ⟨nodup_map_append_single (·.key) s.list e hG.keys (fun e' he' => by rw [hek]; exact hnk e' he'),
      nodup_map_append_single (·.id) s.list e hG.ids hid, ?_, fun r hr => ⟨List.mem_append_left _ (hG.rets r hr).1, (hG.rets r hr).2⟩⟩
      rfl (Lock.others_of_holder hl) (fun _ he => List.mem_append_left _ he) ⟨hl, by simp, hek⟩
    intro e' he'
    rcases List.mem_append.mp he' with h1 | h1
    · exact hG.fresh e' h1
    · rw [List.mem_singleton.mp h1]; exact hlt
  | unlock hp =>
    rw [hp] at hth
    exact inv_upd hI (same rfl rfl rfl) rfl (Lock.others_of_holder hth.1) (fun _ he => he)
      hth.2
  | ret hp =>
    rw [hp] at hth
    refine inv_upd hI ⟨hG.keys, hG.ids, hG.fresh, fun r hr => ?_⟩ rfl (fun _ _ hl => ⟨hl, rfl, rfl⟩) (fun _ he => he)
      trivial
    rcases List.mem_append.mp hr with h1 | h1
    · exact hG.rets r h1
    · rw [List.mem_singleton.mp h1]; exact hth

theorem inv_act {s s' : St} {a : Act} (hI : Inv s) (h : act s a = some s') : Inv s' := by
  cases a with
  | call t k => exact inv_call hI h
  | step t => exact inv_step hI h

theorem run_nil (s : St) : run s [] = some s := rfl

theorem run_cons (s : St) (a : Act) (as : List Act) : run s (a :: as) = (act s a).bind (run · as) := by
  rw [run]; cases act s a <;> rfl

theorem arun_cons (s : St) (e : Ev) (es : List Ev) : arun s (e :: es) = (astep s e).bind (arun · es) := by
  rw [arun]; cases astep s e <;> rfl

theorem inv_run : ∀ (as : List Act) (s s' : St), Inv s → run s as = some s' → Inv s' :=
  Run.ind run_nil run_cons fun _ _ _ => inv_act

theorem reachable_inv (as : List Act) (s : St) (h : run init as = some s) : Inv s :=
  inv_run as init s inv_init h

theorem run_append : ∀ (as bs : List Act) (s s1 s2 : St), run s as = some s1 → run s1 bs = some s2 → run s (as ++ bs) = some s2 :=
  Run.append run_nil run_cons

/-- no action takes anything out of the list or out of the log of returns -/
theorem act_grows {s s' : St} {a : Act} (h : act s a = some s') : s.list <+: s'.list ∧ s.rets <+: s'.rets := by
  have same : s.list <+: s.list ∧ s.rets <+: s.rets := ⟨List.prefix_refl _, List.prefix_refl _⟩
  cases a with
  | call t k =>
    simp only [act, call] at h
    split at h <;> cases h
    exact same
  | step t =>
    cases step_Step h with
    | push => exact ⟨List.prefix_append _ _, same.2⟩
    | ret => exact ⟨same.1, List.prefix_append _ _⟩
    | _ => exact same

theorem eq_of_nodup_map {α : Type} (f : Ent → α) : ∀ (l : List Ent), (l.map f).Nodup → ∀ a b, a ∈ l → b ∈ l → f a = f b → a = b
  | [], _, a, _, ha, _, _ => by cases ha
  | x :: l, hn, a, b, ha, hb, hab => by
    rw [List.map_cons, List.nodup_cons] at hn
    rcases List.mem_cons.mp ha with rfl | ha' <;> rcases List.mem_cons.mp hb with rfl | hb'
    · rfl
    · exact absurd (List.mem_map.mpr ⟨b, hb', hab.symm⟩) hn.1
    · exact absurd (List.mem_map.mpr ⟨a, ha', hab⟩) hn.1
    · exact eq_of_nodup_map f l hn.2 a b ha' hb' hab


theorem guardPc_some {p : Pc → Bool} {t : Nat} {o : Option St} {s' : St} (h : guardPc p t o = some s') : o = some s' :=
  Lock.guard_some (g := guardPc p t) (fun _ => rfl) rfl h

/-- an accepted event of the replay is one or two steps of the model -/
theorem astep_run (s s' : St) (e : Ev) (h : astep s e = some s') : ∃ as, run s as = some s' := by
  have one : ∀ {s1}, step s e.t = some s1 → ∃ as, run s as = some s1 := Run.ex_one run_nil run_cons (a := .step e.t)
  have two : ∀ {s2}, (step s e.t).bind (step · e.t) = some s2 → ∃ as, run s as = some s2 :=
    Run.ex_two run_nil run_cons (a := .step e.t) (b := .step e.t)
  unfold astep at h
  simp only at h
  -- one goal per arm of `astep`, in its order; beside each: the thread's program counter, the event
  split at h
  · rename_i k _ _; exact Run.ex_one run_nil run_cons (a := .call e.t k) h     -- idle, call
  · exact two h                                                                 -- gLock, lock
  · exact one (guardPc_some h)                                               -- gCreate, create
  · exact two h                                                                 -- gPush, unlock
  · exact one h                                                                 -- gHave, unlock
  · split at h                                                                  -- gOut, ret
    · exact one h
    · cases h
  · cases h                                                                     -- any other pair is refused

theorem arun_run : ∀ (es : List Ev) (s s' : St), arun s es = some s' → ∃ as, run s as = some s' :=
  Run.of_refines run_nil run_cons (fun _ => rfl) arun_cons astep_run

/-- an accepted replay of a real execution only ever takes steps of the model -/
theorem inv_arun (es : List Ev) (s : St) (h : arun init es = some s) : Inv s := by
  obtain ⟨as, h1⟩ := arun_run es init s h
  exact reachable_inv as s h1

end Otel.GetScopeLock
