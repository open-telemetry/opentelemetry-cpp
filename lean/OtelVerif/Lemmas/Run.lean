/-! Executions of the transition systems: every model's `run` folds an `Option`-valued `step` over a list of actions and
    stops at the first disabled one.  Stated over variables; each model supplies the two equations of its own `run`.
    `of_refines`: a replay whose every event is answered by some run of the model only reaches states the model reaches. -/
namespace Otel.Run

variable {σ α : Type} {step : σ → α → Option σ} {run : σ → List α → Option σ}
  (nil : ∀ s, run s [] = some s) (cons : ∀ s a as, run s (a :: as) = (step s a).bind (run · as))
include nil cons

/-- what every enabled step preserves holds after every run -/
theorem ind {P : σ → Prop} (hstep : ∀ s s' a, P s → step s a = some s' → P s') :
    ∀ (as : List α) (s s' : σ), P s → run s as = some s' → P s'
  | [], s, s', hP, h => by rw [nil] at h; cases h; exact hP
  | a :: as, s, s', hP, h => by
    rw [cons] at h
    obtain ⟨s1, ha, h1⟩ := Option.bind_eq_some_iff.mp h
    exact ind hstep as s1 s' (hstep s s1 a hP ha) h1

theorem append : ∀ (as bs : List α) (s s1 s2 : σ), run s as = some s1 → run s1 bs = some s2 → run s (as ++ bs) = some s2
  | [], bs, s, s1, s2, h1, h2 => by rw [nil] at h1; cases h1; exact h2
  | a :: as, bs, s, s1, s2, h1, h2 => by
    rw [cons] at h1
    obtain ⟨s', ha, h1'⟩ := Option.bind_eq_some_iff.mp h1
    rw [List.cons_append, cons, ha]
    exact append as bs s' s1 s2 h1' h2

theorem ex_one {s s' : σ} {a : α} (h : step s a = some s') : ∃ as, run s as = some s' :=
  ⟨[a], by rw [cons, h]; exact nil s'⟩

theorem ex_two {s s' : σ} {a b : α} (h : (step s a).bind (step · b) = some s') : ∃ as, run s as = some s' := by
  obtain ⟨s1, ha, hb⟩ := Option.bind_eq_some_iff.mp h
  exact ⟨[a, b], by rw [cons, ha, Option.bind_some, cons, hb]; exact nil s'⟩

theorem of_refines {β : Type} {act' : σ → β → Option σ} {run' : σ → List β → Option σ}
    (nil' : ∀ s, run' s [] = some s) (cons' : ∀ s b bs, run' s (b :: bs) = (act' s b).bind (run' · bs))
    (hact : ∀ s s' b, act' s b = some s' → ∃ as, run s as = some s') :
    ∀ (bs : List β) (s s' : σ), run' s bs = some s' → ∃ as, run s as = some s'
  | [], s, s', h => by rw [nil'] at h; cases h; exact ⟨[], nil s⟩
  | b :: bs, s, s', h => by
    rw [cons'] at h
    obtain ⟨s1, hb, h1⟩ := Option.bind_eq_some_iff.mp h
    obtain ⟨as1, h1'⟩ := hact s s1 b hb
    obtain ⟨as2, h2⟩ := of_refines nil' cons' hact bs s1 s' h1
    exact ⟨as1 ++ as2, append nil cons as1 as2 s s1 s' h1' h2⟩

end Otel.Run
