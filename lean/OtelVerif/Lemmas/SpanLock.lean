import OtelVerif.Model.SpanLock
import OtelVerif.Lemmas.LockDiscipline
/-! The inductive invariant of the span lock protocol (`Model/SpanLock.lean`) and its preservation by every step of
    every thread. -/
namespace Otel.SpanLock
open Otel.Ring (upd upd_same upd_other)

/-- what the program counter of thread `t` says about the shared state -/
def TInv (s : St) (t : Nat) : Prop :=
  match s.pc t with
  | .idle => True
  | .mLock _ l => l = true → s.rcd = none
  | .mChk _ l => s.lock = some t ∧ (l = true → s.rcd = none)
  | .mWrite _ l => s.lock = some t ∧ l = false ∧ s.rcd ≠ none
  | .mUnlock m l a => s.lock = some t ∧ (l = true → a = false) ∧ (a = false → s.endBegun = true) ∧ (a = true → m ∈ s.log)
  | .eLock => s.endBegun = true
  | .eChk => s.lock = some t ∧ s.endBegun = true
  | .eDur => s.lock = some t ∧ s.ender = some t
  | .eHand => s.lock = some t ∧ s.ender = some t
  | .eUnlock => s.lock = some t ∧ s.hasEnded = true
  | .rLock l => l = true → s.rcd = none
  | .rRead l => s.lock = some t ∧ (l = true → s.rcd = none)
  | .rUnlock l b => s.lock = some t ∧ (l = true → b = false) ∧ (b = false → s.endBegun = true)
  | .rDone l b => (l = true → b = false) ∧ (b = false → s.endBegun = true)

/-- the call that holds `mu_` and has not yet written (it acquired the lock while the span was recording) -/
def pendPc (p : Pc) (r e : Bool) : List Mut :=
  match p with
  | .mChk m _ => if r then [m] else []
  | .mWrite m _ => if r then [m] else []
  | .eChk => if r && !e then [.dur] else []
  | .eDur => if r then [.dur] else []
  | _ => []

def pend (s : St) : List Mut :=
  match s.lock with
  | none => []
  | some t => pendPc (s.pc t) s.rcd.isSome s.hasEnded

def InEnd (p : Pc) : Prop := p = .eDur ∨ p = .eHand

/-- before the `End` that flips `has_ended_`: the recordable is live and holds the log -/
def Pre (s : St) : Prop := s.ender = none → s.hasEnded = false ∧ s.rcd = some s.log ∧ s.onEnds = [] ∧ s.endReturned = false

/-- from then on: either that `End` is between its test and the hand-off (it holds the lock, the recordable is live), or
    the recordable has been handed to `OnEnd` — once, holding exactly the log — and `recordable_` is null for good -/
def Post (s : St) : Prop := ∀ e, s.ender = some e → s.hasEnded = true ∧ s.endBegun = true ∧
      ((InEnd (s.pc e) ∧ s.rcd = some s.log ∧ s.onEnds = [] ∧ s.endReturned = false) ∨
       (¬ InEnd (s.pc e) ∧ s.rcd = none ∧ s.onEnds = [some s.log]))

structure Inv (s : St) : Prop where
  nd : s.nullDerefs = 0
  rl : ∀ w, s.rcd = some w → w = s.log
  pre : Pre s
  post : Post s
  th : ∀ t, TInv s t
  aq : s.acq = s.log ++ pend s

theorem inv_init : Inv init := by
  refine ⟨rfl, ?_, ?_, ?_, fun _ => trivial, rfl⟩
  · intro w h; cases h; rfl
  · intro _; exact ⟨rfl, rfl, rfl, rfl⟩
  · intro e h; cases h

/-- the invariant of a thread other than the stepping one: if it holds the lock, then lock, `recordable_`, `has_ended_`
    and the ender are as they were; if not, it is enough that the shared state moved monotonically -/
theorem TInv_frame {s s' : St} {t' : Nat} (hpc : s'.pc t' = s.pc t')
    (hfr : s.lock = some t' → s'.lock = some t' ∧ s'.rcd = s.rcd ∧ s'.ender = s.ender ∧ s'.hasEnded = s.hasEnded)
    (hrN : s.rcd = none → s'.rcd = none) (hbeg : s.endBegun = true → s'.endBegun = true)
    (hlog : ∀ m, m ∈ s.log → m ∈ s'.log) (h : TInv s t') : TInv s' t' := by
  unfold TInv at h ⊢
  rw [hpc]
  generalize s.pc t' = p at h ⊢
  cases p with
  | idle => trivial
  | mLock | rLock => exact fun hl => hrN (h hl)
  | mChk | rRead => exact ⟨(hfr h.1).1, fun hl => hrN (h.2 hl)⟩
  | mWrite => rw [(hfr h.1).2.1]; exact ⟨(hfr h.1).1, h.2⟩
  | mUnlock => exact ⟨(hfr h.1).1, h.2.1, fun ha => hbeg (h.2.2.1 ha), fun ha => hlog _ (h.2.2.2 ha)⟩
  | eLock => exact hbeg h
  | eChk => exact ⟨(hfr h.1).1, hbeg h.2⟩
  | eDur | eHand => rw [(hfr h.1).2.2.1]; exact ⟨(hfr h.1).1, h.2⟩
  | eUnlock => rw [(hfr h.1).2.2.2]; exact ⟨(hfr h.1).1, h.2⟩
  | rUnlock => exact ⟨(hfr h.1).1, h.2.1, fun hb => hbeg (h.2.2 hb)⟩
  | rDone => exact ⟨h.1, fun hb => hbeg (h.2 hb)⟩

/-- `TInv` at a known program counter: on a state all of whose threads stand at `p` the `match` computes, so the right
    side is, by unfolding, the clause of `p` -/
theorem TInv_at {s : St} {t : Nat} {p : Pc} (hp : s.pc t = p) : TInv s t ↔ TInv { s with pc := fun _ => p } t := by
  unfold TInv; rw [hp]

theorem th_upd {s s' : St} {t : Nat} {p' : Pc} (hI : Inv s) (hpc : s'.pc = upd s.pc t p')
    (hfr : ∀ t', t' ≠ t → s.lock = some t' → s'.lock = some t' ∧ s'.rcd = s.rcd ∧ s'.ender = s.ender ∧ s'.hasEnded = s.hasEnded)
    (hrN : s.rcd = none → s'.rcd = none) (hbeg : s.endBegun = true → s'.endBegun = true)
    (hlog : ∀ m, m ∈ s.log → m ∈ s'.log) (hself : TInv { s' with pc := fun _ => p' } t) : ∀ t', TInv s' t' := by
  intro t'
  by_cases ht : t' = t
  · rw [ht]; exact (TInv_at (by rw [hpc, upd_same])).mpr hself
  · exact TInv_frame (by rw [hpc, upd_other _ _ _ _ ht]) (hfr t' ht) hrN hbeg hlog (hI.th t')

theorem pend_locked {s : St} {t : Nat} (h : s.lock = some t) : pend s = pendPc (s.pc t) s.rcd.isSome s.hasEnded := by
  unfold pend; rw [h]

theorem pend_unlocked {s : St} (h : s.lock = none) : pend s = [] := by
  unfold pend; rw [h]

theorem pend_holder (s : St) {s' : St} {t : Nat} {p' : Pc} (hl : s.lock = some t) (hl' : s'.lock = s.lock) (hpc : s'.pc = upd s.pc t p') :
    pend s' = pendPc p' s'.rcd.isSome s'.hasEnded := by
  rw [pend_locked (hl'.trans hl), hpc, upd_same]

/-- either `OnEnd` has not been called and `recordable_` holds the log, or it was called once, with the log, and
    `recordable_` is null -/
theorem handoff_of {s : St} (hI : Inv s) :
    (s.onEnds = [] ∧ s.rcd = some s.log ∧ s.endReturned = false) ∨ (s.onEnds = [some s.log] ∧ s.rcd = none) := by
  cases he : s.ender with
  | none => exact .inl ⟨(hI.pre he).2.2.1, (hI.pre he).2.1, (hI.pre he).2.2.2⟩
  | some e =>
    rcases (hI.post e he).2.2 with h1 | h1
    · exact .inl ⟨h1.2.2.1, h1.2.1, h1.2.2.2⟩
    · exact .inr ⟨h1.2.2, h1.2.1⟩

theorem begun_of_null {s : St} (hI : Inv s) (h : s.rcd = none) : s.endBegun = true := by
  cases he : s.ender with
  | none => have := (hI.pre he).2.1; rw [h] at this; cases this
  | some e => exact (hI.post e he).2.1

theorem returned_null {s : St} (hI : Inv s) (h : s.endReturned = true) : s.rcd = none := by
  rcases handoff_of hI with h1 | h1
  · rw [h] at h1; cases h1.2.2
  · exact h1.2

theorem inEnd_upd {s : St} {t : Nat} {p' : Pc} (h : InEnd p' ↔ InEnd (s.pc t)) (e : Nat) :
    InEnd (upd s.pc t p' e) ↔ InEnd (s.pc e) := by
  by_cases he : e = t
  · rw [he, upd_same]; exact h
  · rw [upd_other _ _ _ _ he]

/-- a step of thread `t` that touches only control state: the lock, its own program counter and the ghosts `acq`,
    `endBegun`, `endReturned` (`shape`).  A call names what is particular to the step: what `others` that hold the lock keep,
    `t`'s clause at the new program counter (`self`), and `acq`.  The rest has the common case as default: neither the
    old nor the new program counter lies between the `has_ended_` test and the hand-off, `endBegun` and `endReturned`
    stay as they are. -/
theorem inv_ctl {s s' : St} {t : Nat} {p p' : Pc} {L : Option Nat} {A : List Mut} {B R : Bool} (hI : Inv s) (hp : s.pc t = p)
    (others : ∀ t', t' ≠ t → s.lock = some t' → L = some t')
    (shape : s' = { s with lock := L, acq := A, endBegun := B, endReturned := R, pc := upd s.pc t p' })
    (self : TInv { s' with pc := fun _ => p' } t) (acq : A = s.log ++ pend s')
    (oldOut : ¬ InEnd p := by simp [InEnd]) (newOut : ¬ InEnd p' := by simp [InEnd])
    (begun : s.endBegun = true → B = true := by exact id)
    (returned : R = s.endReturned ∨ s.rcd = none := by exact .inl rfl) : Inv s' := by
  subst shape
  have hR' : s.rcd = some s.log → s.endReturned = false → R = false := fun hr hf => by
    rcases returned with hR | hR
    · rw [hR, hf]
    · rw [hR] at hr; cases hr
  refine ⟨hI.nd, hI.rl, ?_, ?_, ?_, acq⟩
  · intro he
    obtain ⟨h1, h2, h3, h4⟩ := hI.pre he
    exact ⟨h1, h2, h3, hR' h2 h4⟩
  · intro e he
    obtain ⟨h1, h2, h3⟩ := hI.post e he
    refine ⟨h1, begun h2, ?_⟩
    show (InEnd (upd s.pc t p' e) ∧ _) ∨ (¬ InEnd (upd s.pc t p' e) ∧ _)
    rw [inEnd_upd (by rw [hp]; exact ⟨fun h => absurd h newOut, fun h => absurd h oldOut⟩) e]
    exact h3.imp (fun ⟨a, b, c, d⟩ => ⟨a, b, c, hR' b d⟩) id
  · exact th_upd hI rfl (fun t' ht hl => ⟨others t' ht hl, rfl, rfl, rfl⟩) id begun (fun _ => id) self

theorem ite_append {α : Type} (c : Bool) (a b : List α) : (if c then a ++ b else a) = a ++ if c then b else [] := by
  cases c <;> simp

theorem aq_holder {s : St} {t : Nat} {p : Pc} (hI : Inv s) (hl : s.lock = some t) (hp : s.pc t = p) :
    s.acq = s.log ++ pendPc p s.rcd.isSome s.hasEnded := by
  rw [← hp, ← pend_locked hl]; exact hI.aq

theorem aq_moved {s : St} {t : Nat} {p' : Pc} {A : List Mut} {B R : Bool} (hI : Inv s)
    (hp : pendPc p' s.rcd.isSome s.hasEnded = pendPc (s.pc t) s.rcd.isSome s.hasEnded) :
    s.acq = s.log ++ pend { s with acq := A, endBegun := B, endReturned := R, pc := upd s.pc t p' } := by
  rw [hI.aq]
  unfold pend
  dsimp only
  cases s.lock with
  | none => rfl
  | some h =>
    dsimp only
    by_cases hht : h = t
    · rw [hht, upd_same, hp]
    · rw [upd_other _ _ _ _ hht]

theorem inv_call {s s' : St} {t : Nat} {op : Op} (hI : Inv s) (h : call s t op = some s') : Inv s' := by
  unfold call at h
  split at h
  next hp =>
    have hpd : ∀ p', pendPc p' s.rcd.isSome s.hasEnded = [] → pendPc p' s.rcd.isSome s.hasEnded = pendPc (s.pc t) s.rcd.isSome s.hasEnded :=
      fun _ h' => by rw [h', hp]; rfl
    cases op with
    | mutate | isRec =>
      cases h
      exact inv_ctl hI hp (others := fun _ _ => id) (shape := rfl) (self := returned_null hI) (acq := aq_moved hI (hpd _ rfl))
    | endSpan =>
      cases h
      exact inv_ctl hI hp (others := fun _ _ => id) (shape := rfl) (self := rfl) (acq := aq_moved hI (hpd _ rfl))
        (begun := fun _ => rfl)
  next => cases h

/-- a setter call of the lock holder `t` on the live recordable: log and recordable grow by the same entry `m`, which is
    what `t` had pending at its old program counter; at the new one it has nothing pending -/
theorem inv_write {s s' : St} {t : Nat} {p' : Pc} {m : Mut} (hI : Inv s) (holder : s.lock = some t) (live : s.rcd = some s.log)
    (shape : s' = { s with rcd := some (s.log ++ [m]), log := s.log ++ [m], pc := upd s.pc t p' })
    (inEnd : InEnd p' ↔ InEnd (s.pc t)) (pending : pendPc (s.pc t) true s.hasEnded = [m])
    (self : TInv { s' with pc := fun _ => p' } t) (pending' : pendPc p' true s.hasEnded = [] := by exact rfl) : Inv s' := by
  subst shape
  refine ⟨hI.nd, fun _ hw => (Option.some.inj hw).symm, fun he => ⟨(hI.pre he).1, rfl, (hI.pre he).2.2.1, (hI.pre he).2.2.2⟩,
    fun e he => ?_, ?_, ?_⟩
  · obtain ⟨h1, h2, h3⟩ := hI.post e he
    refine ⟨h1, h2, ?_⟩
    show (InEnd (upd s.pc t p' e) ∧ _) ∨ (¬ InEnd (upd s.pc t p' e) ∧ _)
    rw [inEnd_upd inEnd e]
    rcases h3 with ⟨a, _, c, d⟩ | ⟨_, b, _⟩
    · exact .inl ⟨a, rfl, c, d⟩
    · rw [live] at b; cases b
  · exact th_upd hI rfl (Lock.others_of_holder holder) (fun h => by rw [live] at h; cases h) id
      (fun _ hm => List.mem_append_left _ hm) self
  · have haq := hI.aq
    rw [pend_locked holder, live] at haq
    change s.acq = s.log ++ pendPc (s.pc t) true s.hasEnded at haq
    rw [pending] at haq
    simp only [pend, holder, upd_same, Option.isSome_some]
    rw [pending', List.append_nil]; exact haq

/-- once `has_ended_` is set, a lock holder other than the ender on its way to the hand-off finds `recordable_` null:
    that ender would hold the lock itself -/
theorem null_of_ended {s : St} {t : Nat} (hI : Inv s) (hl : s.lock = some t) (hnE : ¬ InEnd (s.pc t)) (hE : s.hasEnded = true) :
    s.rcd = none := by
  cases he : s.ender with
  | none => have := (hI.pre he).1; rw [hE] at this; cases this
  | some e =>
    rcases (hI.post e he).2.2 with h1 | h1
    · have hth := hI.th e
      unfold TInv at hth
      have : s.lock = some e := by rcases h1.1 with h | h <;> rw [h] at hth <;> exact hth.1
      rw [Lock.holder_unique hl this] at hnE
      exact absurd h1.1 hnE
    · exact h1.2.1

theorem inv_step {s s' : St} {t : Nat} (hI : Inv s) (h : step s t = some s') : Inv s' := by
  unfold step at h
  have hth := hI.th t
  unfold TInv at hth
  cases hp : s.pc t with
  | idle => simp only [hp] at h; cases h
  | mLock m l =>
    simp only [hp] at h hth
    obtain ⟨hl, h⟩ := Option.ite_none_right_eq_some.mp h
    cases h
    refine inv_ctl hI hp (others := Lock.others_of_free hl) (shape := rfl) (self := ⟨rfl, hth⟩) (acq := ?_)
    have haq := hI.aq
    rw [pend_unlocked hl, List.append_nil] at haq
    simp only [pend, upd_same, pendPc, ← haq]
    exact ite_append (willApply s) _ _
  | mChk m l =>
    simp only [hp] at h hth
    split at h
    next hr =>
      cases h
      exact inv_ctl hI hp (others := Lock.others_of_holder hth.1) (shape := rfl)
        (self := ⟨hth.1, fun _ => rfl, fun _ => begun_of_null (s := s) hI hr, nofun⟩)
        (acq := aq_moved hI (by rw [hp, hr]; rfl))
    next w hr =>
      cases h
      exact inv_ctl hI hp (others := Lock.others_of_holder hth.1) (shape := rfl)
        (self := by
          refine ⟨hth.1, ?_, by simp [hr]⟩
          cases l with
          | false => rfl
          | true => have := hth.2 rfl; rw [hr] at this; cases this)
        (acq := aq_moved hI (by rw [hp]; rfl))
  | mWrite m l =>
    simp only [hp] at h hth
    split at h
    next hr => exact absurd hr hth.2.2
    next w hr =>
      obtain rfl := hI.rl w hr
      cases h
      exact inv_write hI (holder := hth.1) (live := hr) (shape := rfl) (inEnd := by rw [hp]; exact ⟨nofun, nofun⟩)
        (pending := by rw [hp]; rfl)
        (self := ⟨hth.1, fun hl => (by rw [hth.2.1] at hl; cases hl), nofun, fun _ => by simp⟩)
  | mUnlock m l a =>
    simp only [hp] at h hth; cases h
    exact inv_ctl hI hp (others := Lock.others_of_holder hth.1) (shape := rfl) (self := trivial) (acq := aq_holder hI hth.1 hp)
  | eLock =>
    simp only [hp] at h hth
    obtain ⟨hl, h⟩ := Option.ite_none_right_eq_some.mp h
    cases h
    refine inv_ctl hI hp (others := Lock.others_of_free hl) (shape := rfl) (self := ⟨rfl, hth⟩) (acq := ?_)
    have haq := hI.aq
    rw [pend_unlocked hl, List.append_nil] at haq
    simp only [pend, upd_same, pendPc, ← haq]
    exact ite_append (willApply s && !s.hasEnded) _ _
  | eChk =>
    simp only [hp] at h hth
    split at h
    next hE =>
      cases h
      exact inv_ctl hI hp (others := Lock.others_of_holder hth.1) (shape := rfl) (self := ⟨hth.1, hE⟩)
        (acq := aq_moved hI (by rw [hp, hE]; cases s.rcd.isSome <;> rfl))
    next hE =>
      -- the `End` that flips `has_ended_`: not a control step
      have hE' : s.hasEnded = false := Bool.eq_false_iff.mpr hE
      have hen : s.ender = none := by
        cases he : s.ender with
        | none => rfl
        | some e => have := (hI.post e he).1; rw [hE'] at this; cases this
      obtain ⟨_, hrl, hon, hret⟩ := hI.pre hen
      split at h
      next hr => rw [hrl] at hr; cases hr
      cases h
      refine ⟨hI.nd, hI.rl, nofun, fun e he => ?_, ?_, ?_⟩
      · obtain rfl := Option.some.inj he
        exact ⟨rfl, hth.2, .inl ⟨by show InEnd (upd s.pc t .eDur t); rw [upd_same]; exact .inl rfl, hrl, hon, hret⟩⟩
      · exact th_upd hI rfl (Lock.others_of_holder hth.1) (fun h => by rw [hrl] at h; cases h) id (fun _ => id) ⟨hth.1, rfl⟩
      · simp only [pend, hth.1, upd_same]; simpa [pendPc, hE', hrl] using aq_holder hI hth.1 hp
  | eDur =>
    simp only [hp] at h hth
    rcases (hI.post t hth.2).2.2 with ⟨_, hrl, _⟩ | ⟨hn, _⟩
    · rw [hrl] at h; cases h
      exact inv_write hI (holder := hth.1) (live := hrl) (shape := rfl)
        (inEnd := by rw [hp]; exact ⟨fun _ => .inl rfl, fun _ => .inr rfl⟩) (pending := by rw [hp]; rfl) (self := hth)
    · exact absurd (hp ▸ .inl rfl) hn
  | eHand =>
    -- the hand-off: not a control step
    simp only [hp] at h hth; cases h
    obtain ⟨hE, hB, hd⟩ := hI.post t hth.2
    rcases hd with ⟨_, hrl, hon, hret⟩ | ⟨hn, _⟩
    · refine ⟨hI.nd, nofun, fun he => (by rw [hth.2] at he; cases he), fun e he => ?_, ?_, ?_⟩
      · obtain rfl := Option.some.inj (hth.2.symm.trans he)
        exact ⟨hE, hB, .inr ⟨by show ¬ InEnd (upd s.pc t .eUnlock t); rw [upd_same]; exact nofun, rfl,
          by show s.rcd :: s.onEnds = _; rw [hrl, hon]⟩⟩
      · exact th_upd hI rfl (Lock.others_of_holder hth.1) (fun _ => rfl) id (fun _ => id) ⟨hth.1, hE⟩
      · simp only [pend, hth.1, upd_same]; exact aq_holder hI hth.1 hp
    · exact absurd (hp ▸ .inr rfl) hn
  | eUnlock =>
    simp only [hp] at h hth; cases h
    exact inv_ctl hI hp (others := Lock.others_of_holder hth.1) (shape := rfl) (self := trivial) (acq := aq_holder hI hth.1 hp)
      (returned := .inr (null_of_ended hI hth.1 (hp ▸ nofun) hth.2))
  | rLock l =>
    simp only [hp] at h hth
    obtain ⟨hl, h⟩ := Option.ite_none_right_eq_some.mp h
    cases h
    refine inv_ctl hI hp (others := Lock.others_of_free hl) (shape := rfl) (self := ⟨rfl, hth⟩) (acq := ?_)
    have haq := hI.aq
    rw [pend_unlocked hl] at haq
    simp only [pend, upd_same, pendPc]; exact haq
  | rRead l =>
    simp only [hp] at h hth; cases h
    exact inv_ctl hI hp (others := Lock.others_of_holder hth.1) (shape := rfl)
      (self := by
        refine ⟨hth.1, fun hl => by rw [hth.2 hl]; rfl, fun hb => ?_⟩
        cases hr : s.rcd with
        | none => exact begun_of_null (s := s) hI hr
        | some w => rw [hr] at hb; cases hb)
      (acq := aq_moved hI (by rw [hp]; rfl))
  | rUnlock l b =>
    simp only [hp] at h hth; cases h
    exact inv_ctl hI hp (others := Lock.others_of_holder hth.1) (shape := rfl) (self := hth.2) (acq := aq_holder hI hth.1 hp)
  | rDone l b =>
    simp only [hp] at h hth; cases h
    exact inv_ctl hI hp (others := fun _ _ => id) (shape := rfl) (self := trivial) (acq := aq_moved hI (by rw [hp]; rfl))

theorem inv_act {s s' : St} {a : Act} (hI : Inv s) (h : act s a = some s') : Inv s' := by
  cases a with
  | call t op => exact inv_call hI h
  | step t => exact inv_step hI h

theorem call_effect {s s' : St} {t : Nat} {op : Op} (h : call s t op = some s') : s'.log = s.log ∧ s'.onEnds = s.onEnds := by
  unfold call at h
  split at h
  · cases op <;> cases h <;> exact ⟨rfl, rfl⟩
  · cases h

theorem step_effect {s s' : St} {t : Nat} (h : step s t = some s') :
    (s'.log = s.log ∨ ∃ m, s.rcd ≠ none ∧ s'.log = s.log ++ [m]) ∧ (s'.onEnds = s.onEnds ∨ s.pc t = .eHand) := by
  unfold step at h
  cases hp : s.pc t with
  | idle => simp only [hp] at h; cases h
  | mWrite | eDur =>
    simp only [hp] at h
    split at h <;> cases h
    · exact ⟨.inl rfl, .inl rfl⟩
    · exact ⟨.inr ⟨_, by simp [*], rfl⟩, .inl rfl⟩
  | eHand => simp only [hp] at h; cases h; exact ⟨.inl rfl, .inr rfl⟩
  | mLock | eLock | rLock =>
    simp only [hp] at h
    obtain ⟨_, h⟩ := Option.ite_none_right_eq_some.mp h
    cases h; exact ⟨.inl rfl, .inl rfl⟩
  | mChk => simp only [hp] at h; split at h <;> cases h <;> exact ⟨.inl rfl, .inl rfl⟩
  | eChk =>
    simp only [hp] at h
    split at h
    · cases h; exact ⟨.inl rfl, .inl rfl⟩
    · split at h <;> cases h <;> exact ⟨.inl rfl, .inl rfl⟩
  | mUnlock | eUnlock | rRead | rUnlock | rDone => simp only [hp] at h; cases h; exact ⟨.inl rfl, .inl rfl⟩

theorem run_nil (s : St) : run s [] = some s := rfl

theorem run_cons (s : St) (a : Act) (as : List Act) : run s (a :: as) = (act s a).bind (run · as) := by
  rw [run]; cases act s a <;> rfl

theorem arun_cons (s : St) (e : Ev) (es : List Ev) : arun s (e :: es) = (astep s e).bind (arun · es) := by
  rw [arun]; cases astep s e <;> rfl

theorem inv_run : ∀ (as : List Act) (s s' : St), Inv s → run s as = some s' → Inv s' :=
  Run.ind run_nil run_cons fun _ _ _ => inv_act

theorem reachable_inv (as : List Act) (s : St) (h : run init as = some s) : Inv s := inv_run as init s inv_init h

/-- an accepted event of the replay is zero, one or two steps of the model -/
theorem astep_run (s s' : St) (e : Ev) (h : astep s e = some s') : ∃ as, run s as = some s' := by
  have one : ∀ {s1}, step s e.t = some s1 → ∃ as, run s as = some s1 := Run.ex_one run_nil run_cons (a := .step e.t)
  have two : ∀ {s2}, (step s e.t).bind (step · e.t) = some s2 → ∃ as, run s as = some s2 :=
    Run.ex_two run_nil run_cons (a := .step e.t) (b := .step e.t)
  have grd : ∀ {c : Bool}, guardEq c (step s e.t) = some s' → ∃ as, run s as = some s' := fun hg => by
    unfold guardEq at hg
    split at hg
    · exact one hg
    · cases hg
  unfold astep at h
  simp only at h
  -- one goal per arm of `astep`, in its order; beside each: the thread's program counter, the event
  split at h
  · rename_i op _ _; exact Run.ex_one run_nil run_cons (a := .call e.t op) h   -- idle, call
  · cases h; exact ⟨[], rfl⟩                                                    -- idle, ret of a mutator or `End`
  · exact two h                                                                 -- mLock, lock
  · exact grd h                                                                 -- mWrite, rcd
  · exact one h                                                                 -- mUnlock, unlock
  · exact two h                                                                 -- eLock, lock
  · exact grd h                                                                 -- eDur, rcd
  · exact grd h                                                                 -- eHand, onend
  · exact one h                                                                 -- eUnlock, unlock
  · exact two h                                                                 -- rLock, lock
  · exact one h                                                                 -- rUnlock, unlock
  · exact grd h                                                                 -- rDone, ret of `IsRecording`
  · cases h                                                                     -- any other pair is refused

theorem arun_run : ∀ (es : List Ev) (s s' : St), arun s es = some s' → ∃ as, run s as = some s' :=
  Run.of_refines run_nil run_cons (fun _ => rfl) arun_cons astep_run

/-- an accepted replay of a real execution only ever takes steps of the model: every state it passes satisfies the invariant -/
theorem inv_arun (es : List Ev) (s : St) (h : arun init es = some s) : Inv s := by
  obtain ⟨as, h1⟩ := arun_run es init s h
  exact reachable_inv as s h1

end Otel.SpanLock
