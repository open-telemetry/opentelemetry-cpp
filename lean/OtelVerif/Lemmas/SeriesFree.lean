import OtelVerif.Lemmas.SeriesMap
import OtelVerif.Lemmas.SeriesKey
import OtelVerif.Lemmas.SeriesNodup
import Mathlib.Algebra.Order.Group.Multiset
/-! The free aggregation (the list of the recorded values) with its multiset measure, and the measure at a key of a
    table with pairwise distinct keys.  With `run_map` and `run_key_totals` they give C07's `storage_series_point`. -/
namespace Otel.Series

variable {K V : Type} [DecidableEq K]

/-- the free aggregation: remember every value -/
def freeAgg : Agg V (List V) := { new := [], add := fun l v => l ++ [v], merge := fun a b => a ++ b }

/-- the multiset of the remembered values is an additive measure -/
def freeMeasure : Measure (freeAgg : Agg V (List V)) (Multiset V) :=
  { μ := fun l => (l : Multiset V)
    w := fun v => {v}
    new := rfl
    add := fun a v => by
      show ((a ++ [v] : List V) : Multiset V) = (a : Multiset V) + {v}
      rw [← Multiset.coe_singleton, Multiset.coe_add]
    merge := fun a b => by
      show ((a ++ b : List V) : Multiset V) = (a : Multiset V) + (b : Multiset V)
      rw [Multiset.coe_add] }

/-- with pairwise distinct keys the measure at key `k0` is the measure of the one entry with that key -/
theorem totK_of_nodup {A M : Type} [AddCommMonoid M] (k0 : K) (μ : A → M) (es : List (K × A)) (h : KeysNodup es) :
    totK k0 μ es = match lookupKey k0 es with
      | some a => μ a
      | none => 0 := by
  induction es with
  | nil => rfl
  | cons e es ih =>
    have hn : e.1 ∉ es.map (·.1) ∧ KeysNodup es := by
      unfold KeysNodup at h; rw [List.map_cons, List.nodup_cons] at h; exact h
    simp only [totK, List.map_cons, List.sum_cons, lookupKey]
    by_cases hk : e.1 = k0
    · simp only [hk, if_true]
      have : lookupKey k0 es = none := (lookupKey_none_iff k0 es).mpr (hk ▸ hn.1)
      have h0 := ih hn.2
      rw [this] at h0
      simp only [totK] at h0
      rw [h0, add_zero]
    · simp only [hk, if_false, zero_add]
      exact ih hn.2

end Otel.Series
