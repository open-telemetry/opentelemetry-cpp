import OtelVerif.Model.SeriesStore
import Mathlib.Algebra.BigOperators.Group.List.Basic
/-! Lemmas about the `AttributesHashMap` model (`Otel.Series.Table`).  `record` and `mergeEntry` are both an
    `upsertKey` at the key's `slot`; the size invariant behind the cardinality limit and the conservation of an
    additive measure are facts about that one step. -/
namespace Otel.Series

variable {K A V : Type} [DecidableEq K]

theorem length_updKey (k : K) (f : A → A) (es : List (K × A)) : (updKey k f es).length = es.length := by
  induction es with
  | nil => rfl
  | cons e es ih => unfold updKey; split <;> simp [ih]

theorem keys_updKey (k : K) (f : A → A) (es : List (K × A)) : (updKey k f es).map (·.1) = es.map (·.1) := by
  induction es with
  | nil => rfl
  | cons e es ih => unfold updKey; split <;> simp [ih]

theorem lookupKey_isSome_iff (k : K) (es : List (K × A)) : (lookupKey k es).isSome = true ↔ k ∈ es.map (·.1) := by
  induction es with
  | nil => simp [lookupKey]
  | cons e es ih =>
    rw [lookupKey, List.map_cons, List.mem_cons]
    split
    · exact iff_of_true rfl (Or.inl (Eq.symm ‹_›))
    · rw [ih]; exact (or_iff_right (Ne.symm ‹_›)).symm

theorem lookupKey_none_iff (k : K) (es : List (K × A)) : lookupKey k es = none ↔ k ∉ es.map (·.1) := by
  rw [← lookupKey_isSome_iff, Bool.not_eq_true, Option.isSome_eq_false_iff, Option.isNone_iff_eq_none]

theorem lookupKey_updKey_isSome (k k' : K) (f : A → A) (es : List (K × A)) :
    (lookupKey k' (updKey k f es)).isSome = (lookupKey k' es).isSome :=
  Bool.eq_iff_iff.mpr (by rw [lookupKey_isSome_iff, lookupKey_isSome_iff, keys_updKey])

theorem lookupKey_append (k : K) (es es' : List (K × A)) :
    lookupKey k (es ++ es') = (lookupKey k es).or (lookupKey k es') := by
  induction es with
  | nil => simp [lookupKey]
  | cons e es ih =>
    simp only [List.cons_append, lookupKey]
    split
    · rfl
    · exact ih

theorem updKey_append_of_none {k : K} {es : List (K × A)} (h : lookupKey k es = none) (f : A → A) (es' : List (K × A)) :
    updKey k f (es ++ es') = es ++ updKey k f es' := by
  induction es with
  | nil => rfl
  | cons e es ih =>
    unfold lookupKey at h
    split at h
    · exact absurd h (by simp)
    · rename_i hk
      simp only [List.cons_append, updKey, if_neg hk, ih h]

theorem updKey_congr {k : K} {es : List (K × A)} {a : A} (h : lookupKey k es = some a) {f g : A → A} (hfg : f a = g a) :
    updKey k f es = updKey k g es := by
  induction es with
  | nil => rfl
  | cons e es ih =>
    unfold lookupKey at h
    unfold updKey
    split at h
    · rename_i hk
      rw [if_pos hk, if_pos hk, Option.some.inj h, hfg]
    · rename_i hk
      rw [if_neg hk, if_neg hk, ih h]

/-- apply `f` to the value under `k`; if there is none, add the entry `(k, f d)` -/
def upsertKey (k : K) (d : A) (f : A → A) (es : List (K × A)) : List (K × A) :=
  if (lookupKey k es).isSome then updKey k f es else es ++ [(k, f d)]

theorem upsertKey_of_isSome {k : K} {es : List (K × A)} (h : (lookupKey k es).isSome = true) (d : A) (f : A → A) :
    upsertKey k d f es = updKey k f es := if_pos h

theorem upsertKey_of_none {k : K} {es : List (K × A)} (h : lookupKey k es = none) (d : A) (f : A → A) :
    upsertKey k d f es = es ++ [(k, f d)] := if_neg (by simp [h])

theorem length_upsertKey_le (k : K) (d : A) (f : A → A) (es : List (K × A)) : (upsertKey k d f es).length ≤ es.length + 1 := by
  unfold upsertKey; split <;> simp [length_updKey]

/-- the upsert seen from the list in which `k` has been given the default value `d` if it was absent -/
theorem updKey_ensure (k : K) (d : A) (f : A → A) (es : List (K × A)) :
    updKey k f (if (lookupKey k es).isSome then es else es ++ [(k, d)]) = upsertKey k d f es := by
  unfold upsertKey
  split
  · rfl
  · rename_i h
    rw [updKey_append_of_none (by simpa using h)]
    simp [updKey]

/-- the key under which a measurement for `k` is booked: `k` itself if it has a series or there is room for one more,
    the overflow key otherwise -/
def Table.slot (ovf : K) (t : Table K A) (k : K) : K := if t.has k then k else if t.isOverflow then ovf else k

theorem Table.slot_of_has (ovf : K) {t : Table K A} {k : K} (h : t.has k = true) : t.slot ovf k = k := if_pos h

theorem Table.slot_of_room (ovf : K) {t : Table K A} (h : t.isOverflow = false) (k : K) : t.slot ovf k = k := by
  unfold Table.slot; split
  · rfl
  · rw [if_neg (by simp [h])]

theorem Table.slot_of_overflow (ovf : K) {t : Table K A} {k : K} (h1 : t.has k = false) (h2 : t.isOverflow = true) :
    t.slot ovf k = ovf := by
  unfold Table.slot; rw [if_neg (by simp [h1]), if_pos h2]

theorem Table.slot_absent (ovf : K) {t : Table K A} {k : K} (h : t.has (t.slot ovf k) = false) (ho : t.isOverflow = true) :
    t.slot ovf k = ovf := by
  cases hk : t.has k with
  | false => exact Table.slot_of_overflow ovf hk ho
  | true => rw [Table.slot_of_has ovf hk, hk] at h; exact absurd h (by simp)

theorem Table.resolve_eq (ovf : K) (t : Table K A) (k : K) (d : A) :
    t.resolve ovf k d =
      (if t.has (t.slot ovf k) then t else { t with entries := t.entries ++ [(t.slot ovf k, d)] }, t.slot ovf k) := by
  unfold Table.resolve
  cases hk : t.has k with
  | true => simp [Table.slot_of_has ovf hk, hk]
  | false =>
    cases ho : t.isOverflow with
    | true => rw [Table.slot_of_overflow ovf hk ho]; cases t.has ovf <;> simp
    | false => simp [Table.slot_of_room ovf ho, hk]

theorem Table.set_eq (ovf : K) (t : Table K A) (k : K) (a : A) :
    t.set ovf k a = { t with entries := upsertKey (t.slot ovf k) a (fun _ => a) t.entries } := by
  unfold Table.set
  cases hk : t.has k with
  | true => simp only [if_true, Table.slot_of_has ovf hk, upsertKey_of_isSome hk]
  | false =>
    have hk' : lookupKey k t.entries = none := by simpa [Table.has, Table.get?] using hk
    cases ho : t.isOverflow with
    | true =>
      simp only [Table.slot_of_overflow ovf hk ho, Bool.false_eq_true, if_false, if_true]
      rfl  -- `assign ovf a` is `upsertKey ovf a (fun _ => a)` by definition
    | false => simp only [Table.slot_of_room ovf ho, Bool.false_eq_true, if_false, upsertKey_of_none hk']

theorem Table.record_eq (ag : Agg V A) (ovf : K) (t : Table K A) (k : K) (v : V) :
    t.record ag ovf k v = { t with entries := upsertKey (t.slot ovf k) ag.new (fun a => ag.add a v) t.entries } := by
  unfold Table.record
  rw [Table.resolve_eq, ← updKey_ensure]
  -- both sides now update the slot in the list that `resolve` has extended if the slot was absent
  unfold Table.has Table.get?
  split <;> rfl

/-- the key `GetOrSetDefault` resolves to is present afterwards -/
theorem Table.resolve_has (ovf : K) (t : Table K A) (k : K) (d : A) :
    ∃ slot, (t.resolve ovf k d).1.get? (t.resolve ovf k d).2 = some slot := by
  rw [Table.resolve_eq]
  apply Option.isSome_iff_exists.mp
  show (lookupKey _ _).isSome = true
  cases h : t.has (t.slot ovf k) with
  | true => exact h
  | false => simp [lookupKey_isSome_iff]

/-- the table in which `GetOrSetDefault` has made room books `k` under the same key as before -/
theorem Table.slot_resolve (ovf : K) (t : Table K A) (k : K) (d : A) : (t.resolve ovf k d).1.slot ovf k = t.slot ovf k := by
  rw [Table.resolve_eq]
  cases h : t.has (t.slot ovf k) with
  | true => rfl
  | false =>
    simp only [Bool.false_eq_true, if_false]
    by_cases hkk : t.slot ovf k = k
    · rw [hkk]; exact Table.slot_of_has ovf (by simp [Table.has, Table.get?, lookupKey_isSome_iff])
    · -- the slot is the overflow key: `k` is absent and the table at its limit, and both stay so
      have hk : t.has k = false := Bool.eq_false_iff.mpr fun hk => hkk (Table.slot_of_has ovf hk)
      have ho : t.isOverflow = true := (Bool.not_eq_false _).mp fun ho => hkk (Table.slot_of_room ovf ho k)
      rw [Table.slot_of_overflow ovf hk ho] at hkk ⊢
      apply Table.slot_of_overflow
      · simpa [Table.has, Table.get?, lookupKey_append, lookupKey, hkk] using hk
      · unfold Table.isOverflow at ho ⊢
        simp only [decide_eq_true_eq, List.length_append, List.length_cons, List.length_nil] at ho ⊢
        omega

theorem Table.mergeEntry_eq (ag : Agg V A) (ovf : K) (t : Table K A) (e : K × A) :
    t.mergeEntry ag ovf e =
      { t with entries := upsertKey (t.slot ovf e.1) ag.new (fun a => ag.merge a e.2) t.entries } := by
  -- in both branches the step is `Set(e.1, slot->Merge(e.2))` on the table `GetOrSetDefault` returns
  obtain ⟨cur, hcur⟩ := Table.resolve_has ovf t e.1 ag.new
  have hstep : t.mergeEntry ag ovf e = (t.resolve ovf e.1 ag.new).1.set ovf e.1 (ag.merge cur e.2) := by
    unfold Table.mergeEntry
    cases hg : t.get? e.1 with
    | some c =>
      have hh : t.has e.1 = true := by simp [Table.has, hg]
      have : t.resolve ovf e.1 ag.new = (t, e.1) := by unfold Table.resolve; rw [if_pos hh]
      rw [this] at hcur ⊢
      rw [hg] at hcur
      rw [Option.some.inj hcur]
    | none => simp only [hcur]
  rw [hstep, Table.set_eq, Table.slot_resolve]
  rw [Table.resolve_eq] at hcur ⊢
  replace hcur : lookupKey (t.slot ovf e.1) _ = some cur := hcur
  -- the slot holds `cur` in the extended list, so `Set` overwrites it with `cur.Merge(e.2)`: an update by `Merge(e.2)`
  rw [upsertKey_of_isSome (by rw [hcur]; rfl), updKey_congr (g := fun a => ag.merge a e.2) hcur rfl, ← updKey_ensure]
  unfold Table.has Table.get?
  split <;> rfl

theorem Table.resolve_limit (ovf : K) (t : Table K A) (k : K) (d : A) : (t.resolve ovf k d).1.limit = t.limit := by
  rw [Table.resolve_eq]; dsimp only; split <;> rfl

theorem Table.set_limit (ovf : K) (t : Table K A) (k : K) (a : A) : (t.set ovf k a).limit = t.limit := by
  rw [Table.set_eq]

theorem Table.record_entries (ag : Agg V A) (ovf : K) (t : Table K A) (k : K) (v : V) :
    (t.record ag ovf k v).entries = upsertKey (t.slot ovf k) ag.new (fun a => ag.add a v) t.entries := by
  rw [Table.record_eq]

theorem Table.mergeEntry_entries (ag : Agg V A) (ovf : K) (t : Table K A) (e : K × A) :
    (t.mergeEntry ag ovf e).entries = upsertKey (t.slot ovf e.1) ag.new (fun a => ag.merge a e.2) t.entries := by
  rw [Table.mergeEntry_eq]

theorem Table.record_limit (ag : Agg V A) (ovf : K) (t : Table K A) (k : K) (v : V) : (t.record ag ovf k v).limit = t.limit := by
  rw [Table.record_eq]

theorem Table.mergeEntry_limit (ag : Agg V A) (ovf : K) (t : Table K A) (e : K × A) : (t.mergeEntry ag ovf e).limit = t.limit := by
  rw [Table.mergeEntry_eq]

theorem Table.size_record_le (ag : Agg V A) (ovf : K) (t : Table K A) (k : K) (v : V) : (t.record ag ovf k v).size ≤ t.size + 1 := by
  rw [Table.size, Table.record_entries]; exact length_upsertKey_le ..

theorem Table.size_mergeEntry_le (ag : Agg V A) (ovf : K) (t : Table K A) (e : K × A) : (t.mergeEntry ag ovf e).size ≤ t.size + 1 := by
  rw [Table.size, Table.mergeEntry_entries]; exact length_upsertKey_le ..

theorem Table.size_set_le (ovf : K) (t : Table K A) (k : K) (a : A) : (t.set ovf k a).size ≤ t.size + 1 := by
  rw [Table.set_eq]; exact length_upsertKey_le (t.slot ovf k) a (fun _ => a) t.entries

/-- either there is still room below the limit, or the table is empty, or the overflow entry exists and the size is
    within the limit -/
def Table.Inv (ovf : K) (t : Table K A) : Prop :=
  t.size < t.limit ∨ t.size = 0 ∨ (t.has ovf = true ∧ t.size ≤ max t.limit 1)

theorem Table.Inv.size_le {ovf : K} {t : Table K A} (h : t.Inv ovf) : t.size ≤ max t.limit 1 := by
  rcases h with h | h | h
  · exact Nat.le_trans (Nat.le_of_lt h) (Nat.le_max_left ..)
  · exact h ▸ Nat.zero_le _
  · exact h.2

theorem Table.inv_empty (ovf : K) (l : Nat) : (Table.empty l : Table K A).Inv ovf := Or.inr (Or.inl rfl)

/-- an upsert at the slot keeps the invariant: a new entry is added either below the limit or as the overflow entry -/
theorem Table.inv_upsert {ovf : K} {t : Table K A} (hi : t.Inv ovf) (k : K) (d : A) (f : A → A) :
    ({ t with entries := upsertKey (t.slot ovf k) d f t.entries } : Table K A).Inv ovf := by
  cases h : t.has (t.slot ovf k) with
  | true =>
    rw [upsertKey_of_isSome h]
    unfold Table.Inv Table.size Table.has Table.get? at *
    simp only [length_updKey, lookupKey_updKey_isSome]
    exact hi
  | false =>
    rw [upsertKey_of_none (by simpa [Table.has, Table.get?] using h)]
    simp only [Table.Inv, Table.size, List.length_append, List.length_cons, List.length_nil]
    cases ho : t.isOverflow with
    | false => left; simpa [Table.isOverflow] using ho
    | true =>
      right; right
      have hs := Table.slot_absent ovf h ho
      rw [hs] at h ⊢
      refine ⟨by simp [Table.has, Table.get?, lookupKey_isSome_iff], ?_⟩
      have hfull : t.limit ≤ t.entries.length + 1 := by simpa [Table.isOverflow] using ho
      rcases hi with h1 | h1 | h1
      · simp only [Table.size] at h1; omega
      · simp only [Table.size] at h1; omega
      · rw [h] at h1; exact absurd h1.1 (by simp)

theorem Table.inv_set {ovf : K} {t : Table K A} (hi : t.Inv ovf) (k : K) (a : A) : (t.set ovf k a).Inv ovf := by
  rw [Table.set_eq]; exact Table.inv_upsert hi ..

theorem Table.inv_record (ag : Agg V A) {ovf : K} {t : Table K A} (hi : t.Inv ovf) (k : K) (v : V) : (t.record ag ovf k v).Inv ovf := by
  rw [Table.record_eq]; exact Table.inv_upsert hi ..

theorem Table.inv_mergeEntry (ag : Agg V A) {ovf : K} {t : Table K A} (hi : t.Inv ovf) (e : K × A) : (t.mergeEntry ag ovf e).Inv ovf := by
  rw [Table.mergeEntry_eq]; exact Table.inv_upsert hi ..

section total
variable {M : Type} [AddCommMonoid M]

/-- the sum of a keyed measure over all series of a table (`tot`, `totK` are the instances that ignore the key resp.
    look at one key only) -/
def totW (ν : K → A → M) (es : List (K × A)) : M := (es.map fun e => ν e.1 e.2).sum

omit [DecidableEq K] in
theorem totW_append (ν : K → A → M) (es es' : List (K × A)) : totW ν (es ++ es') = totW ν es + totW ν es' := by
  simp [totW]

omit [DecidableEq K] in
theorem totW_perm (ν : K → A → M) {es es' : List (K × A)} (h : es.Perm es') : totW ν es = totW ν es' :=
  (h.map _).sum_eq

theorem totW_updKey (ν : K → A → M) {k : K} {f : A → A} {d : M} {es : List (K × A)} {a : A} (h : lookupKey k es = some a)
    (hf : ν k (f a) = ν k a + d) : totW ν (updKey k f es) = totW ν es + d := by
  induction es with
  | nil => exact absurd h (by simp [lookupKey])
  | cons e es ih =>
    unfold lookupKey at h
    unfold updKey
    split at h
    · rename_i hk
      rw [if_pos hk]
      obtain rfl := Option.some.inj h
      simp only [totW, List.map_cons, List.sum_cons, hk, hf]
      rw [add_right_comm]
    · rename_i hk
      rw [if_neg hk]
      have := ih h
      simp only [totW, List.map_cons, List.sum_cons] at this ⊢
      rw [this, add_assoc]

theorem totW_upsertKey (ν : K → A → M) {k : K} {d : A} {f : A → A} {δ : M} (hd : ν k d = 0) (hf : ∀ a, ν k (f a) = ν k a + δ)
    (es : List (K × A)) : totW ν (upsertKey k d f es) = totW ν es + δ := by
  cases h : lookupKey k es with
  | some a => rw [upsertKey_of_isSome (by simp [h])]; exact totW_updKey ν h (hf a)
  | none => rw [upsertKey_of_none h, totW_append]; simp [totW, hf, hd]

def tot (μ : A → M) (es : List (K × A)) : M := (es.map fun e => μ e.2).sum

omit [DecidableEq K] in
theorem tot_eq_totW (μ : A → M) (es : List (K × A)) : tot μ es = totW (fun _ => μ) es := rfl

theorem tot_nil (μ : A → M) : tot μ ([] : List (K × A)) = 0 := rfl

theorem tot_append (μ : A → M) (es es' : List (K × A)) : tot μ (es ++ es') = tot μ es + tot μ es' :=
  totW_append (fun _ => μ) es es'

omit [DecidableEq K] in
theorem tot_perm (μ : A → M) {es es' : List (K × A)} (h : es.Perm es') : tot μ es = tot μ es' :=
  totW_perm (fun _ => μ) h

/-- how an aggregation is measured: additive in `Aggregate` and `Merge`, zero on a fresh aggregation -/
structure Measure (ag : Agg V A) (M : Type) [AddCommMonoid M] where
  μ : A → M
  w : V → M
  new : μ ag.new = 0
  add : ∀ a v, μ (ag.add a v) = μ a + w v
  merge : ∀ a b, μ (ag.merge a b) = μ a + μ b

variable {ag : Agg V A}

/-- recording a measurement adds exactly its weight to the table total — whether it gets its own series, joins an
    existing one, or is folded into the overflow series -/
theorem Table.tot_record (ms : Measure ag M) (ovf : K) (t : Table K A) (k : K) (v : V) :
    tot ms.μ (t.record ag ovf k v).entries = tot ms.μ t.entries + ms.w v := by
  rw [Table.record_entries, tot_eq_totW, tot_eq_totW]
  exact totW_upsertKey (fun _ => ms.μ) ms.new (fun a => ms.add a v) _

/-- one step of the interval merge adds exactly the merged series' measure — also when the series is folded into
    the overflow series (fix D10c) -/
theorem Table.tot_mergeEntry (ms : Measure ag M) (ovf : K) (t : Table K A) (e : K × A) :
    tot ms.μ (t.mergeEntry ag ovf e).entries = tot ms.μ t.entries + ms.μ e.2 := by
  rw [Table.mergeEntry_entries, tot_eq_totW, tot_eq_totW]
  exact totW_upsertKey (fun _ => ms.μ) ms.new (fun a => ms.merge a e.2) _

end total
end Otel.Series
