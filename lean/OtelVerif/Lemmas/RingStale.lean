import OtelVerif.Lemmas.Ring.Ghost
import OtelVerif.Model.RingStale
/-! The SC invariants `Ring.Inv` and `Ring.Inv2` survive stale loads of `head_` / `tail_` in `Add`. -/
namespace Otel.RingStale
open Otel.Ring

theorem step_ldTailStale {s s' : St} {p t : Nat} : step s (.ldTailStale p t) = some s' ↔ (pcOf s p = .ldTail ∧ t ≤ s.tail) ∧
    s' = { s with prods := upd s.prods p { (s.prods p) with pc := .ldHead t, c0 := min (s.prods p).c0 t } } := by
  simp only [step, pcOf]; split <;> simp only [*, some_eq_iff, true_and, false_and, reduceCtorEq]

theorem step_ldHeadStale {s s' : St} {p h : Nat} : step s (.ldHeadStale p h) = some s' ↔ ∃ t, pcOf s p = .ldHead t ∧ h ≤ s.head ∧
    s' = if h < t ∨ h - t ≥ s.cap - 1 then { s with prods := setPc s p .idle, fails := (s.prods p).elem :: s.fails }
         else { s with prods := setPc s p (.swap t h) } := by
  simp only [step, pcOf]; cases (s.prods p).pc <;> simp
  split <;> simp [*, eq_comm]

theorem inv_step (s s' : St) (a : Act) (hI : Inv s) (h2 : Inv2 s) (h : step s a = some s') : Inv s' ∧ Inv2 s' := by
  cases a with
  | sc a => exact ⟨Ring.inv_step s s' a hI h, Ring.inv2_step s s' a hI h2 h⟩
  | ldTailStale p t =>
    obtain ⟨⟨hpc, ht⟩, rfl⟩ := step_ldTailStale.1 h
    have hne : pcOf s p ≠ .idle := by rw [hpc]; exact nofun
    -- the ghost `c0` shrinks to what the producer has seen consumed
    exact ⟨inv_local hI (held_old := by rw [hpc]; rfl) (held_new := rfl) (pcOk := ht),
      inv2_move h2 (in_add := hne) (c0_le := Nat.min_le_left _ _)
        (ldHead := fun t' ht' => PPc.ldHead.inj ht' ▸ Nat.min_le_right _ _)⟩
  | ldHeadStale p hh =>
    obtain ⟨t, hpc, hle, rfl⟩ := step_ldHeadStale.1 h
    have htl : t ≤ s.tail := hI.ldHeadLe p t hpc
    split
    · exact ⟨inv_keep hI (held_eq := by rw [hpc]; rfl) (elem_eq := nofun) (pcOk := trivial), inv2_fail s p t h2 hpc⟩
    · rename_i hroom
      -- neither `hh < t` nor `hh - t ≥ cap - 1`
      have hb : hh - t < s.cap - 1 := Nat.lt_of_not_le fun h => hroom (.inr h)
      exact ⟨inv_local hI (held_old := by rw [hpc]; rfl) (held_new := rfl) (pcOk := ⟨htl, hle, hb⟩),
        inv2_move h2 (in_add := by rw [hpc]; exact nofun)⟩

theorem run_ind {P : St → Prop} (hP : ∀ s s' a, P s → step s a = some s' → P s') :
    ∀ (as : List Act) (s s' : St), P s → run s as = some s' → P s' :=
  Run.ind (fun _ => rfl) (fun s a as => by simp only [run]; cases step s a <;> rfl) hP

theorem inv_run (s s' : St) (as : List Act) (hI : Inv s) (h2 : Inv2 s) (h : run s as = some s') : Inv s' ∧ Inv2 s' :=
  run_ind (P := fun x => Inv x ∧ Inv2 x) (fun x x' a hx hs => inv_step x x' a hx.1 hx.2 hs) as s s' ⟨hI, h2⟩ h

theorem reachable_inv (cap : Nat) (hc : 2 ≤ cap) (as : List Act) (s : St) (h : run (init cap) as = some s) :
    Inv s ∧ Inv2 s := inv_run _ _ as (inv_init cap hc) (inv2_init cap) h

theorem cap_step (s s' : St) (a : Act) (h : step s a = some s') : s'.cap = s.cap := by
  cases a with
  | sc a => exact Ring.cap_step s s' a h
  | ldTailStale p t => obtain ⟨-, rfl⟩ := step_ldTailStale.1 h; rfl
  | ldHeadStale p hh => obtain ⟨t, -, -, rfl⟩ := step_ldHeadStale.1 h; split <;> rfl

theorem cap_run (s s' : St) (as : List Act) (h : run s as = some s') : s'.cap = s.cap :=
  run_ind (P := fun x => x.cap = s.cap) (fun x x' a hx hs => (cap_step x x' a hs).trans hx) as s s' rfl h

end Otel.RingStale
