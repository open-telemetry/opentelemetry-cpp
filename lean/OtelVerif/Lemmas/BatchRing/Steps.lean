import OtelVerif.Lemmas.BatchRing.Couple
/-! Preservation of the coupling invariant, one kind of step at a time. -/
namespace Otel.BatchRing
open Otel
open Otel.Ring (upd upd_same upd_other)

theorem j_chk (s s' : St) (p : Nat) (hJ : J s) (h : step s (.chk p) = some s') : J s' := by
  obtain ⟨r', b'⟩ := s'
  simp only [step] at h
  split at h
  · rename_i hp
    split at h
    · rename_i hsd
      obtain ⟨rfl, h2⟩ := onlyB_some h
      simp only [Batch.step, Batch.pStep, hp, hsd, ↓reduceIte] at h2
      cases h2
      exact j_b hJ (clr_of := hJ.clr) (exp_le := hJ.exp) (in_add := add_iff_upd (by rw [hp]; exact nofun) nofun)
    · -- `Add` begins: a fresh element id on the ring side, `begun + 1` on the protocol side
      rename_i hsd
      obtain ⟨h1, h2⟩ := pair_some h
      simp only [Batch.step, Batch.pStep, hp, hsd] at h2
      obtain ⟨-, rfl⟩ := Ring.step_pStart.1 h1
      cases h2
      refine ⟨hJ.hd, hJ.tl, hJ.cap, congrArg (· + 1) hJ.nid, fun q => ?_, fun q e0 hq0 => ?_, hJ.clr, hJ.exp⟩
      · show Ring.pcOf _ q ≠ .idle ↔ ∃ e0, upd s.b.pr p (.add s.b.exported) q = .add e0
        rw [Ring.pcOf_upd rfl]
        by_cases hqp : q = p
        · rw [if_pos hqp, hqp, upd_same]; exact ⟨fun _ => ⟨_, rfl⟩, fun _ => nofun⟩
        · rw [if_neg hqp, upd_other _ _ _ _ hqp]; exact hJ.pr q
      · have hq0 : upd s.b.pr p (.add s.b.exported) q = .add e0 := hq0
        rw [Ring.c0Of_upd rfl]
        by_cases hqp : q = p
        · rw [hqp, upd_same] at hq0; cases hq0
          rw [if_pos hqp]; exact hJ.exp
        · rw [upd_other _ _ _ _ hqp] at hq0; rw [if_neg hqp]; exact hJ.e0 q e0 hq0
  · cases h

theorem inAdd_some {s : St} {p : Nat} (h : inAdd s p = true) : ∃ e0, s.b.pr p = .add e0 := by
  unfold inAdd at h
  split at h
  · rename_i e0 he; exact ⟨e0, he⟩
  · cases h

/-- a ring step the protocol model does not see: one producer moves between two pcs inside `Add` -/
theorem j_move {s : St} {p : Nat} {pc : Ring.PPc} {sl : Nat → Option Nat} (hJ : J s) (hold : Ring.pcOf s.r p ≠ .idle)
    (hnew : pc ≠ .idle := by exact nofun) : J { r := { s.r with slots := sl, prods := Ring.setPc s.r p pc }, b := s.b } :=
  j_r hJ (clr_of := hJ.clr) (clr_le := Nat.le_refl _) (idle_iff := Ring.idle_iff_setPc rfl hold hnew)
    (c0_eq := Ring.c0Of_setPc rfl)

theorem j_add (s s' : St) (a : Ring.Act) (hJ : J s) (h : step s (.add a) = some s') : J s' := by
  obtain ⟨r', b'⟩ := s'
  simp only [step] at h
  cases a with
  | pStart p => cases h
  | cTake n => cases h
  | cClear => cases h
  | pLdTail p =>
    simp only at h
    split at h
    · obtain ⟨rfl, h2⟩ := onlyR_some h
      obtain ⟨hpc, rfl⟩ := Ring.step_pLdTail.1 h2
      exact j_move hJ (by rw [hpc]; exact nofun)
    · cases h
  | pUndo p =>
    simp only at h
    split at h
    · obtain ⟨rfl, h2⟩ := onlyR_some h
      obtain ⟨i, hpc, rfl⟩ := Ring.step_pUndo.1 h2
      exact j_move hJ (by rw [hpc]; exact nofun)
    · cases h
  | pSwap p spur =>
    simp only at h
    split at h
    · obtain ⟨rfl, h2⟩ := onlyR_some h
      obtain ⟨t, i, hpc, rfl⟩ := Ring.step_pSwap.1 h2
      split <;> exact j_move hJ (by rw [hpc]; exact nofun)
    · cases h
  | pLdHead p =>
    simp only at h
    split at h
    · rename_i hin
      obtain ⟨e0, he0⟩ := inAdd_some hin
      split at h
      · rename_i t hpc
        have hpc : Ring.pcOf s.r p = .ldHead t := hpc
        -- the ring takes the branch of the same test
        rw [Ring.step_pLdHead.2 ⟨t, hpc, rfl⟩] at h
        split at h
        · -- the queue is full: `Add` returns false, the protocol model drops
          rename_i hfull
          obtain ⟨h1, h2⟩ := pair_some h
          cases h1
          simp only [Batch.step, Batch.pStep, he0, ↓reduceIte] at h2
          split at h2 <;> cases h2
          exact j_ret hJ p (head_eq := hJ.hd)
        · obtain ⟨rfl, h2⟩ := onlyR_some h
          cases h2
          exact j_move hJ (by rw [hpc]; exact nofun)
      · cases h
    · cases h
  | pCas p spur =>
    simp only at h
    split at h
    · rename_i hin
      obtain ⟨e0, he0⟩ := inAdd_some hin
      split at h
      · rename_i i hpc
        have hpc : Ring.pcOf s.r p = .cas i := hpc
        rw [Ring.step_pCas.2 ⟨i, hpc, rfl⟩] at h
        split at h
        · -- the head CAS succeeds: `Add` returns true, the protocol model commits
          rename_i hok
          obtain ⟨h1, h2⟩ := pair_some h
          cases h1
          simp only [Batch.step, Batch.pStep, he0, Bool.false_eq_true, ↓reduceIte] at h2
          split at h2 <;> cases h2
          exact j_ret hJ p (head_eq := by rw [← hok.1, hJ.hd])
        · obtain ⟨rfl, h2⟩ := onlyR_some h
          cases h2
          exact j_move hJ (by rw [hpc]; exact nofun)
      · cases h
    · cases h

theorem j_wWake (s s' : St) (hJ : J s) (h : step s .wWake = some s') : J s' := by
  obtain ⟨r', b'⟩ := s'
  simp only [step] at h
  obtain ⟨rfl, h2⟩ := onlyB_some h
  simp only [Batch.step] at h2
  split at h2
  · rename_i hidle
    cases h2
    exact j_b hJ (clr_of := fun _ => hJ.clr (by intro r n T R num; rw [hidle]; exact nofun)) (exp_le := hJ.exp)
  · cases h2

/-- `ForceFlush` and `Shutdown` callers touch nothing the coupling reads -/
theorem j_caller {s s' : St} {a : Batch.Act} (hJ : J s) (h : onlyB s (Batch.step s.b a) = some s')
    (ha : (∃ f ret, a = .fStep f ret) ∨ ∃ i, a = .sStep i) : J s' := by
  obtain ⟨r', b'⟩ := s'
  obtain ⟨rfl, h2⟩ := onlyB_some h
  -- every branch of `fStep` and `sStep` writes only fields the coupling does not read
  rcases ha with ⟨f, ret, rfl⟩ | ⟨i, rfl⟩
  · simp only [Batch.step, Batch.fStep] at h2
    (repeat' split at h2) <;> cases h2 <;> exact j_b hJ (clr_of := hJ.clr) (exp_le := hJ.exp)
  · simp only [Batch.step, Batch.sStep] at h2
    (repeat' split at h2) <;> cases h2 <;> exact j_b hJ (clr_of := hJ.clr) (exp_le := hJ.exp)

theorem j_clear (s s' : St) (hJ : J s) (h : step s .clear = some s') : J s' := by
  obtain ⟨r', b'⟩ := s'
  simp only [step] at h
  split at h
  · rename_i hpc
    obtain ⟨rfl, h2⟩ := onlyR_some h
    obtain ⟨-, rfl⟩ := Ring.step_cClear.1 h2
    split <;> exact j_r hJ (clr_of := fun hne => absurd hpc (hne _ _ _ _ _)) (clr_le := Nat.le_succ _)
  · cases h

theorem j_wStep (s s' : St) (hJ : J s) (hI : Invs s) (h : step s .wStep = some s') : J s' := by
  obtain ⟨r', b'⟩ := s'
  simp only [step] at h
  split at h
  · -- `tail_ += num`
    rename_i r n T R num hpc
    obtain ⟨h1, h2⟩ := pair_some h
    obtain ⟨-, rfl⟩ := Ring.step_cTake.1 h1
    simp only [Batch.step, Batch.wStep, hpc] at h2
    cases h2
    exact ⟨hJ.hd, congrArg (· + num) hJ.tl, hJ.cap, hJ.nid, hJ.pr, hJ.e0, fun hne => absurd rfl (hne _ _ _ _ _), hJ.exp⟩
  · -- `Export` is called once every slot has been moved out
    rename_i r n T R num hpc
    split at h
    · rename_i hc
      obtain ⟨rfl, h2⟩ := onlyB_some h
      simp only [Batch.step, Batch.wStep, hpc] at h2
      cases h2
      exact j_b hJ (clr_of := fun _ => hc) (exp_le := hJ.exp)
    · cases h
  · rename_i hnc hnb
    obtain ⟨rfl, h2⟩ := onlyB_some h
    have hc : s.r.clr = s.r.tail := hJ.clr hnb
    cases Batch.wStep_trans h2 with
    | consume hpc => exact absurd hpc (hnc _ _ _ _ _)
    | exportB hpc => exact absurd hpc (hnb _ _ _ _ _)
    | exportE hpc =>
      -- `Export` returns; the protocol invariant at `exportE`: `exported + num = tail`, the batch had been taken out
      have hw := hI.bi.w
      unfold Batch.WInv at hw; rw [hpc] at hw
      refine j_b hJ (clr_of := fun _ => hc) (exp_le := ?_)
      show s.b.exported + _ ≤ s.r.clr
      rw [hw.1, hc, hJ.tl]; exact Nat.le_refl _
    | _ => exact j_b hJ (clr_of := fun _ => hc) (exp_le := hJ.exp)

theorem j_step (s s' : St) (a : Act) (hJ : J s) (hI : Invs s) (h : step s a = some s') : J s' := by
  cases a with
  | prod p => exact j_prod s s' p hJ h
  | chk p => exact j_chk s s' p hJ h
  | add a => exact j_add s s' a hJ h
  | wWake => exact j_wWake s s' hJ h
  | wStep => exact j_wStep s s' hJ hI h
  | clear => exact j_clear s s' hJ h
  | fStep f r => exact j_caller hJ h (.inl ⟨f, r, rfl⟩)
  | sStep i => exact j_caller hJ h (.inr ⟨i, rfl⟩)

theorem run_ind {P : St → Prop} (hP : ∀ s s' a, P s → step s a = some s' → P s') :
    ∀ (as : List Act) (s s' : St), P s → run s as = some s' → P s' :=
  Run.ind (fun _ => rfl) (fun s a as => by simp only [run]; cases step s a <;> rfl) hP

theorem reachable (maxQ maxB : Nat) (hq : 1 ≤ maxQ) (hb : 1 ≤ maxB) (as : List Act) (s : St)
    (h : run (init maxQ maxB) as = some s) : J s ∧ Invs s :=
  run_ind (P := fun x => J x ∧ Invs x) (fun x x' a hx hs => ⟨j_step x x' a hx.1 hx.2 hs, invs_step x x' a hx.2 hs⟩)
    as _ s ⟨j_init maxQ maxB, invs_init maxQ maxB hq hb⟩ h

end Otel.BatchRing
