import OtelVerif.Lemmas.BatchRing.Proj
/-! The coupling invariant between the ring and the protocol model, and the shapes of step that preserve it. -/
namespace Otel.BatchRing
open Otel
open Otel.Ring (upd upd_same upd_other)

structure J (s : St) : Prop where
  hd  : s.r.head = s.b.head
  tl  : s.r.tail = s.b.tail
  cap : s.r.cap = s.b.maxQ + 1
  nid : s.r.nextId = s.b.begun
  pr  : ∀ p, Ring.pcOf s.r p ≠ .idle ↔ ∃ e0, s.b.pr p = .add e0
  e0  : ∀ p e0, s.b.pr p = .add e0 → e0 ≤ Ring.c0Of s.r p
  clr : (∀ r n T R num, s.b.wpc ≠ .exportB r n T R num) → s.r.clr = s.r.tail
  exp : s.b.exported ≤ s.r.clr

theorem j_init (maxQ maxB : Nat) : J (init maxQ maxB) := by
  refine ⟨rfl, rfl, rfl, rfl, ?_, ?_, ?_, ?_⟩ <;> simp [init, Ring.init, Batch.init, Ring.pcOf]

theorem pcOf_eq (r : Ring.St) (p : Nat) : pcOf r p = Ring.pcOf r p := rfl

/-- only the protocol side moves; who is inside `Add`, and since when, does not change -/
theorem j_b {s : St} {b' : Batch.St} (hJ : J s)
    (clr_of : (∀ r n T R num, b'.wpc ≠ .exportB r n T R num) → s.r.clr = s.r.tail) (exp_le : b'.exported ≤ s.r.clr)
    (in_add : ∀ q e0, b'.pr q = .add e0 ↔ s.b.pr q = .add e0 := by exact fun _ _ => Iff.rfl)
    (hh : b'.head = s.b.head := by exact rfl) (ht : b'.tail = s.b.tail := by exact rfl)
    (hq : b'.maxQ = s.b.maxQ := by exact rfl) (hb : b'.begun = s.b.begun := by exact rfl) :
    J { r := s.r, b := b' } := by
  have hpr := in_add; have hclr := clr_of; have he := exp_le
  refine ⟨hJ.hd.trans hh.symm, hJ.tl.trans ht.symm, by rw [hJ.cap, hq], hJ.nid.trans hb.symm, ?_, ?_, hclr, he⟩
  · exact fun q => (hJ.pr q).trans (exists_congr fun e0 => (hpr q e0).symm)
  · exact fun q e0 hq0 => hJ.e0 q e0 ((hpr q e0).1 hq0)

theorem add_iff_upd {pr : Nat → Batch.PPc} {p : Nat} {v : Batch.PPc} (hold : ∀ e0, pr p ≠ .add e0)
    (hnew : ∀ e0, v ≠ .add e0) (q e0 : Nat) : upd pr p v q = .add e0 ↔ pr q = .add e0 := by
  by_cases hqp : q = p
  · subst hqp; rw [upd_same]; exact ⟨fun h => absurd h (hnew e0), fun h => absurd h (hold e0)⟩
  · rw [upd_other _ _ _ _ hqp]

theorem j_prod (s s' : St) (p : Nat) (hJ : J s) (h : step s (.prod p) = some s') : J s' := by
  obtain ⟨r', b'⟩ := s'
  simp only [step] at h
  cases hp : s.b.pr p <;> rw [hp] at h <;> simp only at h
  case chk | add => cases h
  -- from `idle`, `fin` and `noop` only the protocol side moves, between two pcs outside `Add`
  all_goals
    obtain ⟨rfl, h2⟩ := onlyB_some h
    simp only [Batch.step, Batch.pStep, hp] at h2
    cases h2
    exact j_b hJ (clr_of := hJ.clr) (exp_le := hJ.exp) (in_add := add_iff_upd (by rw [hp]; exact nofun) nofun)

/-- only the ring moves, and neither starts, ends nor commits an `Add` -/
theorem j_r {s : St} {r' : Ring.St} (hJ : J s)
    (clr_of : (∀ r n T R num, s.b.wpc ≠ .exportB r n T R num) → r'.clr = r'.tail) (clr_le : s.r.clr ≤ r'.clr)
    (idle_iff : ∀ q, Ring.pcOf r' q ≠ .idle ↔ Ring.pcOf s.r q ≠ .idle := by exact fun _ => Iff.rfl)
    (c0_eq : ∀ q, Ring.c0Of r' q = Ring.c0Of s.r q := by exact fun _ => rfl)
    (hh : r'.head = s.r.head := by exact rfl) (ht : r'.tail = s.r.tail := by exact rfl)
    (hc : r'.cap = s.r.cap := by exact rfl) (hn : r'.nextId = s.r.nextId := by exact rfl) :
    J { r := r', b := s.b } := by
  have hpc := idle_iff; have hc0 := c0_eq; have hclr := clr_of; have he := clr_le
  refine ⟨hh.trans hJ.hd, ht.trans hJ.tl, hc.trans hJ.cap, hn.trans hJ.nid, ?_, ?_, hclr, Nat.le_trans hJ.exp he⟩
  · exact fun q => (hpc q).trans (hJ.pr q)
  · exact fun q e0 hq0 => (hc0 q).symm ▸ hJ.e0 q e0 hq0

/-- `Add` returns, with or without a commit: the producer leaves `Add` on both sides -/
theorem j_ret {s : St} {hd hd' : Nat} {lg fl : List Nat} {d : Nat} (hJ : J s) (p : Nat) (head_eq : hd = hd') :
    J { r := { s.r with head := hd, log := lg, fails := fl, prods := Ring.setPc s.r p .idle },
        b := { s.b with head := hd', dropped := d, pr := upd s.b.pr p .fin } } := by
  refine ⟨head_eq, hJ.tl, hJ.cap, hJ.nid, fun q => ?_, fun q e0 hq0 => ?_, hJ.clr, hJ.exp⟩
  · show Ring.pcOf _ q ≠ .idle ↔ ∃ e0, upd s.b.pr p .fin q = .add e0
    rw [Ring.pcOf_setPc rfl]
    by_cases hqp : q = p
    · rw [if_pos hqp, hqp, upd_same]; exact ⟨fun h => absurd rfl h, fun ⟨_, h⟩ => nomatch h⟩
    · rw [if_neg hqp, upd_other _ _ _ _ hqp]; exact hJ.pr q
  · have hq0 : upd s.b.pr p .fin q = .add e0 := hq0
    rw [Ring.c0Of_setPc rfl]
    by_cases hqp : q = p
    · rw [hqp, upd_same] at hq0; cases hq0
    · rw [upd_other _ _ _ _ hqp] at hq0; exact hJ.e0 q e0 hq0

end Otel.BatchRing
