import OtelVerif.Model.BatchRing
import OtelVerif.Lemmas.Batch.Main
import OtelVerif.Lemmas.Ring.Ghost
/-! Every step of the composed model is a step of each component (or leaves it alone): both invariants carry over. -/
namespace Otel.BatchRing
open Otel

theorem onlyB_some {s : St} {r' : Ring.St} {b' : Batch.St} {ob : Option Batch.St}
    (h : onlyB s ob = some { r := r', b := b' }) : r' = s.r ∧ ob = some b' := by
  cases ob with
  | none => cases h
  | some b1 => cases h; exact ⟨rfl, rfl⟩

theorem onlyR_some {s : St} {r' : Ring.St} {b' : Batch.St} {or : Option Ring.St}
    (h : onlyR s or = some { r := r', b := b' }) : b' = s.b ∧ or = some r' := by
  cases or with
  | none => cases h
  | some r1 => cases h; exact ⟨rfl, rfl⟩

theorem pair_some {or : Option Ring.St} {ob : Option Batch.St} {r' : Ring.St} {b' : Batch.St}
    (h : pair or ob = some { r := r', b := b' }) : or = some r' ∧ ob = some b' := by
  cases or <;> cases ob <;> cases h
  exact ⟨rfl, rfl⟩

def RStep (r r' : Ring.St) : Prop := r' = r ∨ ∃ a, Ring.step r a = some r'
def BStep (b b' : Batch.St) : Prop := b' = b ∨ ∃ a, Batch.step b a = some b'

/-- **projection**: a step of the composition is a step (or a stutter) of the ring and of the protocol model -/
theorem proj (s s' : St) (a : Act) (h : step s a = some s') : RStep s.r s'.r ∧ BStep s.b s'.b := by
  -- a result has one of three shapes: only the protocol side moved, only the ring, or both
  have B : ∀ {ba}, onlyB s (Batch.step s.b ba) = some s' → RStep s.r s'.r ∧ BStep s.b s'.b := fun h =>
    let ⟨h1, h2⟩ := onlyB_some h; ⟨.inl h1, .inr ⟨_, h2⟩⟩
  have R : ∀ {ra}, onlyR s (Ring.step s.r ra) = some s' → RStep s.r s'.r ∧ BStep s.b s'.b := fun h =>
    let ⟨h1, h2⟩ := onlyR_some h; ⟨.inr ⟨_, h2⟩, .inl h1⟩
  have P : ∀ {ra ba}, pair (Ring.step s.r ra) (Batch.step s.b ba) = some s' → RStep s.r s'.r ∧ BStep s.b s'.b :=
    fun h => let ⟨h1, h2⟩ := pair_some h; ⟨.inr ⟨_, h1⟩, .inr ⟨_, h2⟩⟩
  cases a with
  | wWake | fStep | sStep => exact B h
  | prod p =>
    -- the protocol side alone, from `idle`, `fin`, `noop`
    simp only [step] at h
    split at h <;> first | exact B h | cases h
  | chk p =>
    -- the protocol side alone after shutdown; otherwise `Add` begins on both sides
    simp only [step] at h
    (repeat' split at h) <;> first | exact B h | exact P h | cases h
  | add a =>
    -- the ring alone, except where `Add` returns (full test, successful head CAS): then both
    cases a <;> simp only [step] at h <;> (repeat' split at h) <;> first | exact R h | exact P h | cases h
  | wStep =>
    -- `tail_ += num` moves both, every other worker step the protocol side alone
    simp only [step] at h
    (repeat' split at h) <;> first | exact P h | exact B h | cases h
  | clear =>
    simp only [step] at h
    split at h <;> first | exact R h | cases h

structure Invs (s : St) : Prop where
  ri  : Ring.Inv s.r
  ri2 : Ring.Inv2 s.r
  bi  : Batch.Inv s.b

theorem invs_init (maxQ maxB : Nat) (hq : 1 ≤ maxQ) (hb : 1 ≤ maxB) : Invs (init maxQ maxB) :=
  ⟨Ring.inv_init (maxQ + 1) (by omega), Ring.inv2_init (maxQ + 1), Batch.inv_init maxQ maxB hb⟩

theorem invs_step (s s' : St) (a : Act) (hI : Invs s) (h : step s a = some s') : Invs s' := by
  obtain ⟨hr, hb⟩ := proj s s' a h
  refine ⟨?_, ?_, ?_⟩
  · rcases hr with hr | ⟨ra, hr⟩
    · rw [hr]; exact hI.ri
    · exact Ring.inv_step _ _ ra hI.ri hr
  · rcases hr with hr | ⟨ra, hr⟩
    · rw [hr]; exact hI.ri2
    · exact Ring.inv2_step _ _ ra hI.ri hI.ri2 hr
  · rcases hb with hb | ⟨ba, hb⟩
    · rw [hb]; exact hI.bi
    · exact Batch.inv_step _ _ ba hI.bi hb

end Otel.BatchRing
