import OtelVerif.Lemmas.BatchRing.Steps
import OtelVerif.Lemmas.Ring.Full
/-! The pairing never blocks for a reason the components do not have: the guards the protocol model puts on a commit, a
    drop and a consume follow from the ring's state and the coupling. -/
namespace Otel.BatchRing
open Otel
open Otel.Ring (upd upd_same upd_other)

theorem inAdd_of {s : St} {p e0 : Nat} (h : s.b.pr p = .add e0) : inAdd s p = true := by simp [inAdd, h]

/-- a successful head CAS in the ring is a commit the protocol model accepts (its guard `head - tail < max_queue_size`
    follows from `Ring.Inv.casBound`) -/
theorem commit_enabled (s : St) (hJ : J s) (hI : Invs s) (p h : Nat) (hpc : Ring.pcOf s.r p = .cas h) (hh : s.r.head = h) :
    (step s (.add (.pCas p false))).isSome = true := by
  obtain ⟨e0, he0⟩ := (hJ.pr p).1 (by rw [hpc]; simp)
  have hb := hI.ri.casBound p h hpc
  have h1 := hJ.hd; have h2 := hJ.tl; have h3 := hJ.cap
  have hg : s.b.head - s.b.tail < s.b.maxQ := by omega
  have hpc' : (s.r.prods p).pc = .cas h := hpc
  simp [step, inAdd_of he0, pcOf, hpc', hh, pair, Ring.step, Batch.step, Batch.pStep, he0, hg]

/-- a failing `Add` in the ring (full test on the values it read) is a drop the protocol model accepts (its guard is
    C11's failure justification, through `begun = nextId` and `e0 ≤ c0`) -/
theorem drop_enabled (s : St) (hJ : J s) (hI : Invs s) (p t : Nat) (hpc : Ring.pcOf s.r p = .ldHead t)
    (hfull : s.r.head - t ≥ s.r.cap - 1) : (step s (.add (.pLdHead p))).isSome = true := by
  obtain ⟨e0, he0⟩ := (hJ.pr p).1 (by rw [hpc]; simp)
  have hf := Ring.full_justified hI.ri hI.ri2 hpc hfull
  have h0 := hJ.e0 p e0 he0
  have h1 := hJ.nid; have h3 := hJ.cap
  have hg : Batch.dropGuard s.b e0 := by unfold Batch.dropGuard; omega
  have hpc' : (s.r.prods p).pc = .ldHead t := hpc
  simp [step, inAdd_of he0, pcOf, hpc', hfull, pair, Ring.step, Batch.step, Batch.pStep, he0, hg]

/-- the worker's `tail_ += num` is a `Consume` the ring accepts (`num ≤ head - tail`, and the previous batch has been
    cleared) -/
theorem consume_enabled (s : St) (hJ : J s) (hI : Invs s) (r : Batch.Ret) (n T R num : Nat)
    (hpc : s.b.wpc = .consume r n T R num) : (step s .wStep).isSome = true := by
  -- the protocol invariant at `consume`: the batch was sized against the queue, `num ≤ head - tail`
  have hw := hI.bi.w
  unfold Batch.WInv at hw; rw [hpc] at hw
  have hnum : num ≤ s.b.head - s.b.tail := hw.2.2.2.2.2.2.1
  have hc : s.r.clr = s.r.tail := hJ.clr (by intro r n T R num; rw [hpc]; exact nofun)
  have hn : num ≤ s.r.head - s.r.tail := by rw [hJ.hd, hJ.tl]; exact hnum
  simp [step, hpc, pair, Ring.step, hc, hn, Batch.step, Batch.wStep]

/-- `Add` can begin whenever the `is_shutdown` test passed -/
theorem add_begins (s : St) (hJ : J s) (p : Nat) (hp : s.b.pr p = .chk) (hsd : s.b.isShutdown = false) :
    (step s (.chk p)).isSome = true := by
  have hidle : Ring.pcOf s.r p = .idle := by
    by_cases h : Ring.pcOf s.r p = .idle
    · exact h
    · obtain ⟨e0, he0⟩ := (hJ.pr p).1 h; rw [hp] at he0; cases he0
  have hidle' : (s.r.prods p).pc = .idle := hidle
  simp [step, hp, hsd, pair, Ring.step, hidle', Batch.step, Batch.pStep]

/-- between `tail_ += num` and `Export` the worker is never stuck: it clears a slot or, once all are cleared, calls `Export` -/
theorem clearing_progress (s : St) (hI : Invs s) (r : Batch.Ret) (n T R num : Nat) (hpc : s.b.wpc = .exportB r n T R num) :
    (step s .clear).isSome = true ∨ (step s .wStep).isSome = true := by
  have hle := hI.ri.clrLe
  by_cases hc : s.r.clr = s.r.tail
  · right; simp [step, hpc, hc, onlyB, Batch.step, Batch.wStep]
  · left
    have hlt : s.r.clr < s.r.tail := by omega
    simp only [step, hpc, onlyR, Ring.step, hlt, ↓reduceIte]
    cases s.r.slots (s.r.clr % s.r.cap) <;> simp

theorem maxQ_run (as : List Act) (s0 s1 : St) (h : run s0 as = some s1) : s1.b.maxQ = s0.b.maxQ := by
  refine run_ind (P := fun x => x.b.maxQ = s0.b.maxQ) (fun x x' a hx hs => ?_) as s0 s1 rfl h
  rcases (proj x x' a hs).2 with e | ⟨ba, e⟩
  · rw [e]; exact hx
  · exact (Batch.cfg_step _ _ ba e).2.trans hx

end Otel.BatchRing
