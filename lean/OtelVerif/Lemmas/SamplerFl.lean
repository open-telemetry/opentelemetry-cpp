import Mathlib.Data.Rat.Floor
import OtelVerif.Lemmas.SamplerThr
/-! # The executable binary64 rounding `fl` of `Model/Sampler.lean` is monotone and fixes every binary64 value

`fl q = roundEven (q / ulp) * ulp` with `ulp = 2 ^ (max ⌊log₂ q⌋ (-1022) - 52)`.  Within one binade this is rounding
to a fixed grid (monotone, fixes the grid points); between two binades the power of two that separates them lies on
both grids.  A value `k · 2^e` with `k < 2^53` lies on the grid of its binade; the integers below 2^53 are the case
`e = 0`. -/
namespace Otel.C12
open Otel Otel.Sampler

/-! ## powers of two -/

theorem pow2_pos (e : ℤ) : 0 < pow2 e := zpow_pos (by norm_num) e

theorem pow2_zero : pow2 0 = 1 := zpow_zero 2

theorem pow2_add (a b : ℤ) : pow2 (a + b) = pow2 a * pow2 b := zpow_add₀ (by norm_num) a b

theorem pow2_natCast (k : ℕ) : pow2 k = ((2 ^ k : ℕ) : ℚ) := by
  unfold pow2; rw [zpow_natCast, Nat.cast_pow, Nat.cast_ofNat]

theorem pow2_lt_iff {a b : ℤ} : pow2 a < pow2 b ↔ a < b := zpow_lt_zpow_iff_right₀ (by norm_num)

theorem pow2_le_iff {a b : ℤ} : pow2 a ≤ pow2 b ↔ a ≤ b := zpow_le_zpow_iff_right₀ (by norm_num)

/-! ## `roundEven` -/

theorem roundEven_of_lt {q : ℚ} (h : q - ⌊q⌋ < 1 / 2) : roundEven q = ⌊q⌋ := if_pos h

theorem roundEven_of_gt {q : ℚ} (h : 1 / 2 < q - ⌊q⌋) : roundEven q = ⌊q⌋ + 1 :=
  (if_neg (lt_asymm h)).trans (if_pos h)

theorem roundEven_bounds (q : ℚ) : ⌊q⌋ ≤ roundEven q ∧ roundEven q ≤ ⌊q⌋ + 1 := by
  unfold roundEven
  simp only [rat_floor_eq]
  split_ifs <;> omega

theorem roundEven_mono {x y : ℚ} (h : x ≤ y) : roundEven x ≤ roundEven y := by
  rcases (Int.floor_mono h).eq_or_lt with heq | hlt
  · -- same integer part: the value steps from `⌊x⌋` to `⌊x⌋ + 1` where the fractional part passes 1/2
    rcases lt_or_ge (x - ⌊x⌋) (1 / 2) with hx | hx
    · rw [roundEven_of_lt hx, heq]; exact (roundEven_bounds y).1
    rcases lt_or_ge (1 / 2) (y - ⌊y⌋) with hy | hy
    · rw [roundEven_of_gt hy, ← heq]; exact (roundEven_bounds x).2
    · -- both fractional parts are 1/2, so `x = y`
      have hyx := hy.trans hx
      rw [heq, sub_le_sub_iff_right] at hyx
      rw [le_antisymm h hyx]
  · exact (roundEven_bounds x).2.trans ((Int.add_one_le_iff.2 hlt).trans (roundEven_bounds y).1)

theorem roundEven_int (n : ℤ) : roundEven (n : ℚ) = n := by
  rw [roundEven_of_lt (by rw [Int.floor_intCast, sub_self]; norm_num), Int.floor_intCast]

/-! ## rounding to the grid `2^u · ℤ` -/

def grid (u : ℤ) (q : ℚ) : ℚ := (roundEven (q / pow2 u) : ℚ) * pow2 u

theorem grid_mono (u : ℤ) {x y : ℚ} (h : x ≤ y) : grid u x ≤ grid u y :=
  mul_le_mul_of_nonneg_right
    (Int.cast_le.2 (roundEven_mono (div_le_div_of_nonneg_right h (pow2_pos u).le))) (pow2_pos u).le

/-- a multiple of `2^e` lies on every finer grid -/
theorem grid_fix {u e : ℤ} (h : u ≤ e) (k : ℤ) : grid u ((k : ℚ) * pow2 e) = (k : ℚ) * pow2 e := by
  obtain ⟨m, rfl⟩ := Int.le.dest h
  have : (k : ℚ) * pow2 (u + m) = ((k * 2 ^ m : ℤ) : ℚ) * pow2 u := by
    rw [pow2_add, pow2_natCast]; push_cast; ring
  unfold grid
  rw [this, mul_div_cancel_right₀ _ (pow2_pos u).ne', roundEven_int]

theorem grid_zero (u : ℤ) : grid u 0 = 0 := by simpa using grid_fix (le_refl u) 0

theorem grid_nonneg (u : ℤ) {q : ℚ} (h : 0 ≤ q) : 0 ≤ grid u q := (grid_zero u).ge.trans (grid_mono u h)

/-! ## the binade exponent -/

theorem log2_spec {n : ℕ} (hn : n ≠ 0) : pow2 (Nat.log2 n) ≤ n ∧ (n : ℚ) < pow2 (Nat.log2 n + 1) := by
  have h := pow2_natCast (Nat.log2 n + 1)
  rw [Nat.cast_succ] at h
  rw [pow2_natCast, h]
  exact ⟨Nat.cast_le.2 (Nat.log2_self_le hn), Nat.cast_lt.2 Nat.lt_log2_self⟩

theorem ilog2_spec (n d : ℕ) (hn : 0 < n) (hd : 0 < d) :
    pow2 (ilog2 n d) ≤ (n : ℚ) / d ∧ (n : ℚ) / d < pow2 (ilog2 n d + 1) := by
  have hdq : (0 : ℚ) < d := Nat.cast_pos.2 hd
  obtain ⟨hn1, hn2⟩ := log2_spec hn.ne'
  obtain ⟨hd1, hd2⟩ := log2_spec hd.ne'
  -- with `a = log2 n`, `b = log2 d`: `2^a ≤ n < 2^(a+1)`, `2^b ≤ d < 2^(b+1)`, and `ilog2` tries `a - b`
  rw [le_div_iff₀ hdq, div_lt_iff₀ hdq]
  unfold ilog2
  dsimp only
  split_ifs with hc
  · -- `n < 2^(a+1) = 2^(a-b+1) · 2^b ≤ 2^(a-b+1) · d`
    have e : pow2 ((Nat.log2 n : ℤ) + 1) = pow2 ((Nat.log2 n : ℤ) - Nat.log2 d + 1) * pow2 (Nat.log2 d) := by
      rw [← pow2_add]; congr 1; ring
    exact ⟨hc, (hn2.trans_eq e).trans_le (mul_le_mul_of_nonneg_left hd1 (pow2_pos _).le)⟩
  · -- `2^(a-b-1) · d ≤ 2^(a-b-1) · 2^(b+1) = 2^a ≤ n`
    have e : pow2 ((Nat.log2 n : ℤ) - Nat.log2 d - 1) * pow2 ((Nat.log2 d : ℤ) + 1) = pow2 (Nat.log2 n) := by
      rw [← pow2_add]; congr 1; ring
    refine ⟨(mul_le_mul_of_nonneg_left hd2.le (pow2_pos _).le).trans (e.trans_le hn1), ?_⟩
    rw [sub_add_cancel]; exact not_le.1 hc

def bexp (q : ℚ) : ℤ := ilog2 q.num.natAbs q.den

theorem bexp_spec {q : ℚ} (hq : 0 < q) : pow2 (bexp q) ≤ q ∧ q < pow2 (bexp q + 1) := by
  have hnum : 0 < q.num := Rat.num_pos.mpr hq
  have := ilog2_spec q.num.natAbs q.den (Int.natAbs_pos.mpr hnum.ne') q.den_pos
  rwa [Nat.cast_natAbs, abs_of_pos hnum, Rat.num_div_den] at this

/-- `2 ^ bexp x ≤ x ≤ y < 2 ^ (bexp y + 1)` -/
theorem bexp_mono {x y : ℚ} (hx : 0 < x) (h : x ≤ y) : bexp x ≤ bexp y :=
  Int.lt_add_one_iff.1
    (pow2_lt_iff.1 (((bexp_spec hx).1.trans h).trans_lt (bexp_spec (hx.trans_le h)).2))

theorem ulpExp_eq (q : ℚ) : ulpExp q = max (bexp q) (-1022) - 52 := rfl

/-! ## `flPos`, `fl` -/

theorem flPos_eq {q : ℚ} (hq : q ≠ 0) : flPos q = grid (ulpExp q) q := if_neg hq

theorem flPos_zero : flPos 0 = 0 := if_pos rfl

theorem flPos_nonneg {q : ℚ} (h : 0 ≤ q) : 0 ≤ flPos q := by
  by_cases hq : q = 0
  · rw [hq, flPos_zero]
  · rw [flPos_eq hq]; exact grid_nonneg _ h

theorem flPos_mono {x y : ℚ} (hx : 0 ≤ x) (h : x ≤ y) : flPos x ≤ flPos y := by
  rcases hx.eq_or_lt with rfl | hxp
  · rw [flPos_zero]; exact flPos_nonneg h
  have hyp : 0 < y := hxp.trans_le h
  rw [flPos_eq hxp.ne', flPos_eq hyp.ne']
  have hu : ulpExp x ≤ ulpExp y := sub_le_sub_right (max_le_max_right _ (bexp_mono hxp h)) _
  rcases hu.eq_or_lt with heq | hlt
  · rw [heq]; exact grid_mono _ h
  · -- different binades: `2 ^ bexp y` separates `x` from `y` and lies on both grids.
    -- `hlt` is `max (bexp x) (-1022) < max (bexp y) (-1022)`: the right side exceeds -1022, so it is `bexp y` (`y` is
    -- normal) and `ulpExp y = bexp y - 52`; and `bexp x` is at most the left side, so below `bexp y`.
    have ⟨hxy, hux, huy⟩ : bexp x + 1 ≤ bexp y ∧ ulpExp x ≤ bexp y ∧ ulpExp y ≤ bexp y := by
      rw [ulpExp_eq, ulpExp_eq] at hlt ⊢; omega
    have hm : ∀ u ≤ bexp y, grid u (pow2 (bexp y)) = pow2 (bexp y) := fun u hu => by
      simpa using grid_fix hu 1
    calc grid (ulpExp x) x
        ≤ grid (ulpExp x) (pow2 (bexp y)) := grid_mono _ ((bexp_spec hxp).2.le.trans (pow2_le_iff.2 hxy))
      _ = grid (ulpExp y) (pow2 (bexp y)) := by rw [hm _ hux, hm _ huy]
      _ ≤ grid (ulpExp y) y := grid_mono _ (bexp_spec hyp).1

/-- a binary64 value `k · 2^e` (`k < 2^53`, `e ≥ -1074`) is on the grid of its own binade: it is below `2^(53+e)`,
    so its ulp exponent is at most `e` -/
theorem flPos_repr (k : ℕ) (hk : k < 2 ^ 53) {e : ℤ} (he : -1074 ≤ e) :
    flPos ((k : ℚ) * pow2 e) = (k : ℚ) * pow2 e := by
  rcases Nat.eq_zero_or_pos k with rfl | hp
  · rw [Nat.cast_zero, zero_mul, flPos_zero]
  have hq : (0 : ℚ) < k * pow2 e := mul_pos (Nat.cast_pos.2 hp) (pow2_pos e)
  have hlt : (k : ℚ) * pow2 e < pow2 (53 + e) := by
    rw [pow2_add, show pow2 53 = ((2 ^ 53 : ℕ) : ℚ) from pow2_natCast 53]
    exact mul_lt_mul_of_pos_right (Nat.cast_lt.2 hk) (pow2_pos e)
  have hb : bexp (k * pow2 e) < 53 + e := pow2_lt_iff.1 ((bexp_spec hq).1.trans_lt hlt)
  rw [flPos_eq hq.ne']
  simpa using grid_fix (show ulpExp (k * pow2 e) ≤ e by rw [ulpExp_eq]; omega) k

theorem fl_of_nonneg {q : ℚ} (h : 0 ≤ q) : fl q = flPos q := if_neg (not_lt.2 h)

theorem fl_of_neg {q : ℚ} (h : q < 0) : fl q = -flPos (-q) := if_pos h

theorem fl_neg (q : ℚ) : fl (-q) = -fl q := by
  rcases lt_trichotomy q 0 with h | rfl | h
  · rw [fl_of_neg h, fl_of_nonneg (neg_nonneg.2 h.le), neg_neg]
  · rw [neg_zero, fl_of_nonneg le_rfl, flPos_zero, neg_zero]
  · rw [fl_of_neg (neg_neg_of_pos h), neg_neg, fl_of_nonneg h.le]

theorem fl_mono (x y : ℚ) (h : x ≤ y) : fl x ≤ fl y := by
  rcases lt_or_ge x 0 with hx | hx
  · rw [fl_of_neg hx]
    rcases lt_or_ge y 0 with hy | hy
    · rw [fl_of_neg hy]; exact neg_le_neg (flPos_mono (neg_nonneg.2 hy.le) (neg_le_neg h))
    · rw [fl_of_nonneg hy]
      exact (neg_nonpos.2 (flPos_nonneg (neg_nonneg.2 hx.le))).trans (flPos_nonneg hy)
  · rw [fl_of_nonneg hx, fl_of_nonneg (hx.trans h)]; exact flPos_mono hx h

/-- **`fl` fixes every binary64 value** `± k · 2^e` with `k < 2^53`, `e ≥ -1074` -/
theorem fl_repr (k : ℤ) (hk : |k| < 2 ^ 53) {e : ℤ} (he : -1074 ≤ e) : fl ((k : ℚ) * pow2 e) = (k : ℚ) * pow2 e := by
  have key : fl ((k.natAbs : ℚ) * pow2 e) = (k.natAbs : ℚ) * pow2 e := by
    rw [fl_of_nonneg (mul_nonneg (Nat.cast_nonneg _) (pow2_pos e).le),
      flPos_repr _ (Int.ofNat_lt.1 (by rwa [Int.natCast_natAbs])) he]
  -- `k` is `k.natAbs` or its negative, and `fl` is odd
  rcases Int.natAbs_eq k with h | h <;> rw [h]
  · rwa [Int.cast_natCast]
  · rwa [Int.cast_neg, Int.cast_natCast, neg_mul, fl_neg, neg_inj]

theorem fl_int (n : ℤ) (h : |n| < 2 ^ 53) : fl (n : ℚ) = n := by
  simpa [pow2_zero] using fl_repr n h (e := 0) (by norm_num)

/-- the concrete binary64 rounding as an instance of the abstract one -/
def flRnd : Rnd := ⟨fl, fl_mono, fl_int⟩

theorem flRnd_fl : flRnd.fl = fl := by rfl

end Otel.C12
