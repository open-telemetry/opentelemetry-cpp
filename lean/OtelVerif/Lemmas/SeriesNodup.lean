import OtelVerif.Lemmas.SeriesStore
/-! One series per attribute set: the keys of every table — hence of every collect output — are pairwise distinct. -/
namespace Otel.Series

variable {K A V : Type} [DecidableEq K]

/-- the keys of a table are pairwise distinct -/
def KeysNodup (es : List (K × A)) : Prop := (es.map (·.1)).Nodup

theorem KeysNodup.append {es : List (K × A)} (h : KeysNodup es) {k : K} (hk : lookupKey k es = none) (a : A) :
    KeysNodup (es ++ [(k, a)]) := by
  unfold KeysNodup at *
  rw [List.map_append, List.nodup_append]
  refine ⟨h, by simp, fun x hx y hy hxy => ?_⟩
  rw [hxy, List.mem_singleton.mp hy] at hx
  exact (lookupKey_none_iff k es).mp hk hx

theorem KeysNodup.upsertKey {es : List (K × A)} (h : KeysNodup es) (k : K) (d : A) (f : A → A) :
    KeysNodup (upsertKey k d f es) := by
  cases hk : lookupKey k es with
  | some a => rw [upsertKey_of_isSome (by simp [hk])]; unfold KeysNodup at *; rwa [keys_updKey]
  | none => rw [upsertKey_of_none hk]; exact h.append hk _

theorem Table.nodup_record (ag : Agg V A) (ovf : K) {t : Table K A} (h : KeysNodup t.entries) (k : K) (v : V) :
    KeysNodup (t.record ag ovf k v).entries := by
  rw [Table.record_entries]; exact h.upsertKey ..

theorem Table.nodup_mergeEntry (ag : Agg V A) (ovf : K) {t : Table K A} (h : KeysNodup t.entries) (e : K × A) :
    KeysNodup (t.mergeEntry ag ovf e).entries := by
  rw [Table.mergeEntry_entries]; exact h.upsertKey ..

/-- in every collect output of every history each attribute set occurs at most once -/
theorem run_nodup (c : Cfg K A V) (ops : List (Op K V)) : ∀ s : Store K A, KeysNodup s.cur.entries →
    ∀ r o, (r, some o) ∈ (Store.run c s ops).2 → KeysNodup o := by
  intro s hs r o h
  obtain ⟨t, ht, rfl⟩ := run_out c (P := fun t => KeysNodup t.entries)
    (hstep := fun _ e h => Table.nodup_mergeEntry c.ag c.ovf h e)
    (h0 := List.nodup_nil)  -- the empty table has no keys
    (hrec := fun _ k v h => Table.nodup_record c.ag c.ovf h k v) ops s hs r o h
  exact ht

end Otel.Series
