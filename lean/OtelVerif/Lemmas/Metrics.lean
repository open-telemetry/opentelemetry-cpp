import OtelVerif.Model.Metrics.Temporal
/-! Algebra of the sum-aggregation maps of `Model/Metrics/Temporal.lean`: `addTo`, `mergeInto`, `mergeAll` seen
    through `valAt` (values) and `has` (presence); duplicate-freeness; and the two small facts about the temporal
    storage's state that everything else starts from: `setAt` at and off the index, `fastPath` spelled out. -/
namespace Otel.Temporal

@[simp] theorem valAt_nil (a : Nat) : valAt [] a = 0 := rfl
@[simp] theorem has_nil (a : Nat) : has [] a = false := rfl

theorem valAt_addTo (m : DMap) (a : Nat) (v : Int) (x : Nat) :
    valAt (addTo m a v) x = valAt m x + (if a = x then v else 0) := by
  induction m with
  | nil => simp [addTo, valAt]
  | cons kv t ih =>
    obtain ⟨k, w⟩ := kv
    unfold addTo
    by_cases hk : k = a
    · subst hk
      simp only [if_true, valAt]
      -- the head entry absorbs `v`: for `x = k` both sides are `w + v + valAt t x`, otherwise `v` does not occur
      by_cases hx : k = x
      · rw [if_pos hx, if_pos hx, if_pos hx]; exact Int.add_right_comm _ _ _
      · rw [if_neg hx, if_neg hx, if_neg hx]; exact (Int.add_zero _).symm
    · simp only [hk, if_false, valAt, ih]; omega

theorem has_addTo (m : DMap) (a : Nat) (v : Int) (x : Nat) :
    has (addTo m a v) x = (has m x || a == x) := by
  induction m with
  | nil => simp [addTo, has]
  | cons kv t ih =>
    obtain ⟨k, w⟩ := kv
    unfold addTo
    by_cases hk : k = a
    · subst hk
      simp only [if_true, has]
      cases hkx : (k == x) <;> simp
    · simp only [hk, if_false, has, ih, Bool.or_assoc]

theorem isEmpty_addTo (m : DMap) (a : Nat) (v : Int) : (addTo m a v).isEmpty = false := by
  cases m with
  | nil => rfl
  | cons kv t => unfold addTo; split <;> rfl

theorem valAt_mergeInto (acc m : DMap) (x : Nat) : valAt (mergeInto acc m) x = valAt acc x + valAt m x := by
  unfold mergeInto
  induction m generalizing acc with
  | nil => simp
  | cons kv t ih =>
    obtain ⟨k, w⟩ := kv
    simp only [List.foldl_cons, ih, valAt_addTo, valAt]; omega

theorem has_mergeInto (acc m : DMap) (x : Nat) : has (mergeInto acc m) x = (has acc x || has m x) := by
  unfold mergeInto
  induction m generalizing acc with
  | nil => simp
  | cons kv t ih =>
    obtain ⟨k, w⟩ := kv
    simp only [List.foldl_cons, ih, has_addTo, has, Bool.or_assoc]

/-- Σ of the values for `x` over a list of maps -/
def sumAt : List DMap → Nat → Int
  | [], _ => 0
  | m :: t, x => valAt m x + sumAt t x

def anyHas : List DMap → Nat → Bool
  | [], _ => false
  | m :: t, x => has m x || anyHas t x

@[simp] theorem sumAt_nil (x : Nat) : sumAt [] x = 0 := rfl
@[simp] theorem anyHas_nil (x : Nat) : anyHas [] x = false := rfl

theorem sumAt_append (l₁ l₂ : List DMap) (x : Nat) : sumAt (l₁ ++ l₂) x = sumAt l₁ x + sumAt l₂ x := by
  induction l₁ with
  | nil => simp
  | cons m t ih => simp only [List.cons_append, sumAt, ih]; omega

theorem anyHas_append (l₁ l₂ : List DMap) (x : Nat) : anyHas (l₁ ++ l₂) x = (anyHas l₁ x || anyHas l₂ x) := by
  induction l₁ with
  | nil => simp
  | cons m t ih => simp only [List.cons_append, anyHas, ih, Bool.or_assoc]

theorem valAt_foldl_mergeInto (l : List DMap) (acc : DMap) (x : Nat) :
    valAt (l.foldl mergeInto acc) x = valAt acc x + sumAt l x := by
  induction l generalizing acc with
  | nil => simp
  | cons m t ih => simp only [List.foldl_cons, ih, valAt_mergeInto, sumAt]; omega

theorem has_foldl_mergeInto (l : List DMap) (acc : DMap) (x : Nat) :
    has (l.foldl mergeInto acc) x = (has acc x || anyHas l x) := by
  induction l generalizing acc with
  | nil => simp
  | cons m t ih => simp only [List.foldl_cons, ih, has_mergeInto, anyHas, Bool.or_assoc]

theorem valAt_mergeAll (l : List DMap) (x : Nat) : valAt (mergeAll l) x = sumAt l x := by
  simp [mergeAll, valAt_foldl_mergeInto]

theorem has_mergeAll (l : List DMap) (x : Nat) : has (mergeAll l) x = anyHas l x := by
  simp [mergeAll, has_foldl_mergeInto]

/-- no key occurs twice -/
def NoDup : DMap → Prop
  | [] => True
  | (k, _) :: t => has t k = false ∧ NoDup t

theorem valAt_of_not_has : ∀ (m : DMap) (a : Nat), has m a = false → valAt m a = 0 := by
  intro m a h
  induction m with
  | nil => rfl
  | cons kv t ih =>
    obtain ⟨k, v⟩ := kv
    simp only [has, Bool.or_eq_false_iff, beq_eq_false_iff_ne] at h
    simp [valAt, h.1, ih h.2]

/-- on a duplicate-free map `valAt` is the value found by lookup (0 when absent) -/
theorem valAt_eq_lookup : ∀ (m : DMap) (a : Nat), NoDup m → valAt m a = (m.lookup a).getD 0 := by
  intro m a h
  induction m with
  | nil => rfl
  | cons kv t ih =>
    obtain ⟨k, v⟩ := kv
    by_cases hk : k = a
    · subst hk
      simp [valAt, List.lookup, valAt_of_not_has t k h.1]
    · have : (a == k) = false := beq_false_of_ne (Ne.symm hk)
      simp [valAt, List.lookup, hk, this, ih h.2]

theorem has_iff_lookup : ∀ (m : DMap) (a : Nat), has m a = (m.lookup a).isSome := by
  intro m a
  induction m with
  | nil => rfl
  | cons kv t ih =>
    obtain ⟨k, v⟩ := kv
    by_cases hk : k = a
    · subst hk; simp [has, List.lookup]
    · have : (a == k) = false := beq_false_of_ne (Ne.symm hk)
      have hk' : (k == a) = false := by simp [hk]
      simp [has, List.lookup, this, hk', ih]

theorem NoDup_addTo : ∀ (m : DMap) (a : Nat) (v : Int), NoDup m → NoDup (addTo m a v) := by
  intro m a v h
  induction m with
  | nil => simp [addTo, NoDup]
  | cons kx t ih =>
    obtain ⟨k, x⟩ := kx
    unfold addTo
    by_cases hk : k = a
    · simp only [hk, if_true]; subst hk; exact h
    · simp only [hk, if_false, NoDup, has_addTo]
      refine ⟨?_, ih h.2⟩
      have : (a == k) = false := beq_false_of_ne (Ne.symm hk)
      simp [h.1, this]

theorem NoDup_mergeInto (acc m : DMap) (h : NoDup acc) : NoDup (mergeInto acc m) := by
  unfold mergeInto
  induction m generalizing acc with
  | nil => simpa
  | cons kv t ih => exact ih _ (NoDup_addTo _ _ _ h)

theorem NoDup_mergeAll (l : List DMap) : NoDup (mergeAll l) := by
  unfold mergeAll
  suffices ∀ acc, NoDup acc → NoDup (l.foldl mergeInto acc) from this [] trivial
  induction l with
  | nil => intro acc h; simpa
  | cons m t ih => intro acc h; exact ih _ (NoDup_mergeInto _ _ h)

@[simp] theorem setAt_same {α : Type} (f : Nat → α) (i : Nat) (x : α) : setAt f i x i = x := by simp [setAt]
theorem setAt_other {α : Type} (f : Nat → α) {i j : Nat} (x : α) (h : j ≠ i) : setAt f i x j = f j := by simp [setAt, h]

/-- the source says `collectors.size() == 1` (generated constant); an edit of that literal breaks this lemma and
    everything that stands on it -/
theorem fastPath_def (n : Nat) (temp : Temporality) : fastPath n temp = (n == 1 && temp == .delta) := by
  simp [fastPath, Gen.temporalFastPathCollectors]

end Otel.Temporal
