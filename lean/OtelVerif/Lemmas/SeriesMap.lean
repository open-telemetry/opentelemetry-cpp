import OtelVerif.Lemmas.SeriesStore
/-! The series storage is natural in the aggregation: a homomorphism of aggregations maps a run of the store to a run
    of the store (same keys, same table shapes — the control flow never looks at aggregation values).  With the free
    aggregation (lists of values) this says: every reported aggregation is the image of the list of the values that
    were merged into it. -/
namespace Otel.Series

variable {K V A B : Type} [DecidableEq K]

/-- a homomorphism of aggregations -/
structure AggHom (ag₁ : Agg V A) (ag₂ : Agg V B) (h : A → B) : Prop where
  new : h ag₁.new = ag₂.new
  add : ∀ a v, h (ag₁.add a v) = ag₂.add (h a) v
  merge : ∀ a b, h (ag₁.merge a b) = ag₂.merge (h a) (h b)

def mapE (h : A → B) (es : List (K × A)) : List (K × B) := es.map fun e => (e.1, h e.2)

def Table.map (h : A → B) (t : Table K A) : Table K B := { limit := t.limit, entries := mapE h t.entries }

theorem lookupKey_mapE (h : A → B) (k : K) (es : List (K × A)) : lookupKey k (mapE h es) = (lookupKey k es).map h := by
  induction es with
  | nil => rfl
  | cons e es ih =>
    simp only [mapE, List.map_cons, lookupKey]
    by_cases hk : e.1 = k
    · simp [hk]
    · simp only [hk, if_false]; exact ih

theorem updKey_mapE (h : A → B) (k : K) (f₁ : A → A) (f₂ : B → B) (hf : ∀ a, f₂ (h a) = h (f₁ a)) (es : List (K × A)) :
    updKey k f₂ (mapE h es) = mapE h (updKey k f₁ es) := by
  induction es with
  | nil => rfl
  | cons e es ih =>
    simp only [mapE, List.map_cons, updKey]
    by_cases hk : e.1 = k
    · simp [hk, hf]
    · simp only [hk, if_false, List.map_cons]
      exact congrArg _ ih

theorem mapE_append (h : A → B) (es es' : List (K × A)) : mapE h (es ++ es') = mapE h es ++ mapE h es' := by
  simp [mapE]

theorem Table.map_has (h : A → B) (t : Table K A) (k : K) : (t.map h).has k = t.has k := by
  simp [Table.has, Table.get?, Table.map, lookupKey_mapE]

omit [DecidableEq K] in
theorem Table.map_isOverflow (h : A → B) (t : Table K A) : (t.map h).isOverflow = t.isOverflow := by
  simp [Table.isOverflow, Table.map, mapE]

omit [DecidableEq K] in
theorem Table.map_size (h : A → B) (t : Table K A) : (t.map h).size = t.size := by
  simp [Table.map, Table.size, mapE]

theorem upsertKey_mapE (h : A → B) (k : K) (d : A) (f₁ : A → A) (f₂ : B → B) (hf : ∀ a, f₂ (h a) = h (f₁ a)) (es : List (K × A)) :
    upsertKey k (h d) f₂ (mapE h es) = mapE h (upsertKey k d f₁ es) := by
  unfold upsertKey
  rw [lookupKey_mapE, Option.isSome_map]
  split
  · exact updKey_mapE h k f₁ f₂ hf es
  · simp [mapE, hf]

theorem Table.map_slot (h : A → B) (ovf : K) (t : Table K A) (k : K) : (t.map h).slot ovf k = t.slot ovf k := by
  unfold Table.slot; rw [Table.map_has, Table.map_isOverflow]

variable {ag₁ : Agg V A} {ag₂ : Agg V B} {h : A → B}

theorem Table.map_record (hh : AggHom ag₁ ag₂ h) (ovf : K) (t : Table K A) (k : K) (v : V) :
    (t.map h).record ag₂ ovf k v = (t.record ag₁ ovf k v).map h := by
  rw [Table.record_eq, Table.record_eq, Table.map_slot]
  simp only [Table.map]
  rw [← hh.new, upsertKey_mapE h (hf := fun a => (hh.add a v).symm)]

theorem Table.map_mergeEntry (hh : AggHom ag₁ ag₂ h) (ovf : K) (t : Table K A) (e : K × A) :
    (t.map h).mergeEntry ag₂ ovf (e.1, h e.2) = (t.mergeEntry ag₁ ovf e).map h := by
  rw [Table.mergeEntry_eq, Table.mergeEntry_eq, Table.map_slot]
  simp only [Table.map]
  rw [← hh.new, upsertKey_mapE h (hf := fun a => (hh.merge a e.2).symm)]

/-- two configurations that differ only in the aggregation, related by a homomorphism `h`; the enumeration orders
    must be compatible (they may depend on the keys and positions, not on the aggregation values) -/
structure CfgHom (c₁ : Cfg K A V) (c₂ : Cfg K B V) (h : A → B) : Prop where
  ag : AggHom c₁.ag c₂.ag h
  ovf : c₂.ovf = c₁.ovf
  limit : c₂.limit = c₁.limit
  temps : c₂.temps = c₁.temps
  iter : ∀ es, c₂.iter (mapE h es) = mapE h (c₁.iter es)

variable {c₁ : Cfg K A V} {c₂ : Cfg K B V}

omit [DecidableEq K] in
theorem Table.empty_map (hc : CfgHom c₁ c₂ h) : (Table.empty c₂.limit : Table K B) = (Table.empty c₁.limit : Table K A).map h := by
  rw [hc.limit]; rfl

theorem map_mergeTables (hc : CfgHom c₁ c₂ h) (ts : List (Table K A)) (m : Table K A) :
    mergeTables c₂ (m.map h) (ts.map (Table.map h)) = (mergeTables c₁ m ts).map h := by
  unfold mergeTables
  rw [List.foldl_map]
  refine List.foldl_hom (Table.map h) fun m t => ?_
  show (c₂.iter (mapE h t.entries)).foldl _ _ = _
  rw [hc.iter, hc.ovf, mapE, List.foldl_map]
  exact List.foldl_hom (Table.map h) fun m e => Table.map_mergeEntry hc.ag c₁.ovf m e

/-- the image of a store -/
def Store.map (h : A → B) (s : Store K A) : Store K B :=
  { cur := s.cur.map h
    unreported := s.unreported.map fun e => (e.1, e.2.map (Table.map h))
    last := s.last.map fun e => (e.1, e.2.map h) }

theorem lookupNat_map {β γ : Type} (g : β → γ) (r : Nat) (u : List (Nat × β)) :
    lookupNat r (u.map fun e => (e.1, g e.2)) = (lookupNat r u).map g := by
  induction u with
  | nil => rfl
  | cons e u ih =>
    simp only [List.map_cons, lookupNat]
    by_cases hk : e.1 = r
    · simp [hk]
    · simp only [hk, if_false]; exact ih

theorem assignNat_map {β γ : Type} (g : β → γ) (r : Nat) (b : β) (u : List (Nat × β)) :
    assignNat r (g b) (u.map fun e => (e.1, g e.2)) = (assignNat r b u).map fun e => (e.1, g e.2) := by
  induction u with
  | nil => rfl
  | cons e u ih =>
    simp only [List.map_cons, assignNat]
    by_cases hk : e.1 = r
    · simp [hk]
    · simp only [hk, if_false, List.map_cons]
      exact congrArg _ ih

omit [DecidableEq K] in
theorem pushUnreported_map (r : Nat) (t : Table K A) (u : List (Nat × List (Table K A))) :
    pushUnreported r (t.map h) (u.map fun e => (e.1, e.2.map (Table.map h))) =
      (pushUnreported r t u).map fun e => (e.1, e.2.map (Table.map h)) := by
  unfold pushUnreported
  rw [lookupNat_map (List.map (Table.map h)), ← assignNat_map (List.map (Table.map h))]
  congr 1
  cases lookupNat r u <;> simp

omit [DecidableEq K] in
theorem stash_map (hc : CfgHom c₁ c₂ h) (s : Store K A) :
    stash c₂ (s.map h) = (stash c₁ s).map fun e => (e.1, e.2.map (Table.map h)) := by
  unfold stash
  rw [hc.temps, show (s.map h).cur.size = s.cur.size from Table.map_size h s.cur]
  split
  · rfl
  · exact List.foldl_hom _ fun u col => pushUnreported_map col s.cur u

theorem mergedFor_map (hc : CfgHom c₁ c₂ h) (s : Store K A) (r : Nat) (ts : List (Table K A)) :
    mergedFor c₂ (s.map h) r (ts.map (Table.map h)) = (mergedFor c₁ s r ts).map h := by
  have hlast : lastL c₂ (s.map h) r = (lastL c₁ s r).map (Table.map h) := by
    unfold lastL
    rw [show (s.map h).last = s.last.map fun e => (e.1, e.2.map h) from rfl, lookupNat_map (Table.map h), hc.temps]
    split
    · cases lookupNat r s.last <;> rfl
    · rfl
  rw [mergedFor, mergedFor, hlast, Table.empty_map hc, ← List.map_append, map_mergeTables hc]

theorem Store.map_record (hc : CfgHom c₁ c₂ h) (s : Store K A) (k : K) (v : V) :
    (s.map h).record c₂ k v = (s.record c₁ k v).map h := by
  simp only [Store.record, Store.map, hc.ovf, Table.map_record hc.ag]

theorem Store.map_collect (hc : CfgHom c₁ c₂ h) (s : Store K A) (r : Nat) :
    (s.map h).collect c₂ r = (((s.collect c₁ r).1).map h, ((s.collect c₁ r).2).map (mapE h)) := by
  by_cases hf : c₁.temps.length = 1 ∧ c₁.temps[r]? = some Temporality.delta
  · rw [collect_fast hf, collect_fast (hc.temps ▸ hf), Table.empty_map hc, show (s.map h).cur.size = s.cur.size from Table.map_size h s.cur]
    split <;> rfl
  · rw [collect_slow hf, collect_slow (hc.temps ▸ hf : ¬ (c₂.temps.length = 1 ∧ c₂.temps[r]? = some Temporality.delta))]
    have hho : handOut c₂ (s.map h) = (handOut c₁ s).map h := by
      unfold handOut; rw [stash_map hc, Table.empty_map hc]; rfl
    rw [hho, serve, serve]
    rw [show ((handOut c₁ s).map h).unreported = (handOut c₁ s).unreported.map fun e => (e.1, e.2.map (Table.map h)) from rfl,
      lookupNat_map (List.map (Table.map h))]
    cases lookupNat r (handOut c₁ s).unreported with
    | none => rfl
    | some ts =>
      simp only [Option.map_some]
      rw [mergedFor_map hc]
      simp only [Store.map]
      rw [← assignNat_map (Table.map h), ← assignNat_map (List.map (Table.map h))]; rfl

/-- **naturality of the storage**: running a history with the aggregation `c₂.ag` gives the image, under the
    homomorphism, of running it with `c₁.ag` -/
theorem run_map (hc : CfgHom c₁ c₂ h) (ops : List (Op K V)) : ∀ s : Store K A,
    (Store.run c₂ (s.map h) ops).2 = (Store.run c₁ s ops).2.map fun o => (o.1, o.2.map (mapE h)) := by
  induction ops with
  | nil => intro s; rfl
  | cons op ops ih =>
    intro s
    cases op with
    | record k v =>
      simp only [Store.run]
      rw [Store.map_record hc, ih]
    | collect r =>
      simp only [Store.run]
      rw [Store.map_collect hc]
      simp only [List.map_cons]
      rw [ih]

omit [DecidableEq K] in
theorem init_map (hc : CfgHom c₁ c₂ h) : Store.init c₂ = (Store.init c₁).map h := by
  simp [Store.init, Store.map, Table.empty, Table.map, mapE, hc.limit]

end Otel.Series
