import OtelVerif.Model.RelAcqSlot
import OtelVerif.Lemmas.RelAcq
import OtelVerif.Lemmas.Run
/-! The inductive invariant of the slot hand-off on release/acquire memory (`Model/RelAcqSlot.lean`): an ownership
    discipline.  Every element is owned by at most one thread (`holdsEl`) or one slot (the slot's latest value is its
    pointer); the owner's view - the thread's, or the one attached to the slot's latest message - of the element's
    payload is up to date with **every** access to the payload so far; nobody else's view is ahead of that.  Preserved by
    every step when the publishing CAS is release and the exchanges are acquire (`Orders.ok`). -/
namespace Otel.RelAcq.Slot
open Otel.Ring (upd upd_same upd_other)

/-- the element a thread has in hand -/
def holdsEl : Pc → Option Nat
  | .pInit e | .pPub e | .pChk e | .tRead e | .tDel e => some e
  | _ => none

/-- … whose payload has been written (and not destroyed) -/
def inited : Pc → Option Nat
  | .pPub e | .pChk e | .tRead e | .tDel e => some e
  | _ => none

theorem inited_holds {pc : Pc} {e : Nat} (h : inited pc = some e) : holdsEl pc = some e := by
  cases pc <;> simp [inited] at h <;> simp [holdsEl, h]

theorem slotL_ne_payL (e i : Nat) : slotL i ≠ payL e := by unfold payL slotL; omega
theorem payL_ne_slotL (e i : Nat) : payL e ≠ slotL i := (slotL_ne_payL e i).symm
theorem payL_ne {e e' : Nat} (h : e ≠ e') : payL e ≠ payL e' :=
  fun h' => h (Nat.eq_of_mul_eq_mul_left (by decide) (Nat.succ.inj h'))
theorem slotL_ne {i j : Nat} (h : i ≠ j) : slotL i ≠ slotL j := fun h' => h (Nat.eq_of_mul_eq_mul_left (by decide) h')
theorem ptr_inj {e e' : Nat} (h : ptr e = ptr e') : e = e' := Nat.succ.inj h
theorem ptr_ne_zero (e : Nat) : ptr e ≠ 0 := Nat.succ_ne_zero e

structure Inv (s : St) : Prop where
  holdLt     : ∀ t e, holdsEl (s.pcs t) = some e → e < s.nextId
  holdV      : ∀ t e, holdsEl (s.pcs t) = some e → cv s.m t (payL e) = (s.m.na (payL e)).clk
  holdNoSlot : ∀ t e i, holdsEl (s.pcs t) = some e → s.m.latestVal (slotL i) ≠ ptr e
  holdUniq   : ∀ t t' e, holdsEl (s.pcs t) = some e → holdsEl (s.pcs t') = some e → t = t'
  slotLt     : ∀ i e, s.m.latestVal (slotL i) = ptr e → e < s.nextId
  slotV      : ∀ i e, s.m.latestVal (slotL i) = ptr e → lmv s.m (slotL i) (payL e) = (s.m.na (payL e)).clk
  slotUniq   : ∀ i j e, s.m.latestVal (slotL i) = ptr e → s.m.latestVal (slotL j) = ptr e → i = j
  viewsLe    : ∀ t e, cv s.m t (payL e) ≤ (s.m.na (payL e)).clk
  msgsLe     : ∀ i e, MsgsLe s.m (slotL i) (payL e) (s.m.na (payL e)).clk
  lastWLe    : ∀ e, (s.m.na (payL e)).lastW ≤ (s.m.na (payL e)).clk
  noRace     : s.m.race = false
  holdVal    : ∀ t e, inited (s.pcs t) = some e → (s.m.na (payL e)).val = content e
  slotVal    : ∀ i e, s.m.latestVal (slotL i) = ptr e → (s.m.na (payL e)).val = content e
  seenOk     : ∀ x ∈ s.seen, x.2.2 = content x.2.1
  fresh      : ∀ e, s.nextId ≤ e → (s.m.na (payL e)).clk = 0

theorem inv_init : Inv init := by
  have hno : ∀ t e, holdsEl (init.pcs t) ≠ some e := fun _ _ h => nomatch h
  have hslot : ∀ i e, init.m.latestVal (slotL i) ≠ ptr e := fun i e h => ptr_ne_zero e ((init_latestVal _).symm.trans h).symm
  exact ⟨fun t e h => absurd h (hno t e), fun t e h => absurd h (hno t e), fun t e _ h => absurd h (hno t e),
    fun t _ e h => absurd h (hno t e), fun i e h => absurd h (hslot i e), fun i e h => absurd h (hslot i e),
    fun i _ e h => absurd h (hslot i e), fun t _ => Nat.le_of_eq (init_cv t _), fun _ _ => init_msgsLe _ _ _,
    fun _ => Nat.le_refl _, rfl, fun t e h => absurd (inited_holds h) (hno t e), fun i e h => absurd h (hslot i e),
    fun _ h => (List.not_mem_nil h).elim, fun _ _ => rfl⟩

def IsSlot (l : Nat) : Prop := ∃ i, l = slotL i

theorem Inv.bound {s : St} (hI : Inv s) (e : Nat) : ClkBound s.m IsSlot (payL e) :=
  ⟨fun t => hI.viewsLe t e, fun _ ⟨i, hi⟩ => hi ▸ hI.msgsLe i e, hI.lastWLe e⟩

/-- a statement about what each thread has in hand, after `p` moved to `pc` -/
theorem hold_upd {g : Pc → Option Nat} {pcs : Nat → Pc} {p : Nat} {pc : Pc} {P : Nat → Nat → Prop}
    (hp : ∀ e, g pc = some e → P p e) (ho : ∀ t e, t ≠ p → g (pcs t) = some e → P t e) :
    ∀ t e, g (upd pcs p pc t) = some e → P t e := by
  intro t e h
  by_cases ht : t = p
  · rw [ht, upd_same] at h; exact ht ▸ hp e h
  · rw [upd_other _ _ _ _ ht] at h; exact ho t e ht h

/-- the same for a statement about threads and slots, with the binders in the order of `Inv.holdNoSlot` -/
theorem holdSlot_upd {pcs : Nat → Pc} {p : Nat} {pc : Pc} {Q : Nat → Nat → Prop}
    (hp : ∀ e i, holdsEl pc = some e → Q e i) (ho : ∀ t e i, t ≠ p → holdsEl (pcs t) = some e → Q e i) :
    ∀ t e i, holdsEl (upd pcs p pc t) = some e → Q e i :=
  fun t e i h => hold_upd (P := fun _ e => Q e i) (fun e h => hp e i h) (fun t e ht h => ho t e i ht h) t e h

theorem holdUniq_upd {s : St} (hI : Inv s) {p : Nat} {pc : Pc}
    (hnew : ∀ e, holdsEl pc = some e → ∀ t, t ≠ p → holdsEl (s.pcs t) ≠ some e) :
    ∀ t t' e, holdsEl (upd s.pcs p pc t) = some e → holdsEl (upd s.pcs p pc t') = some e → t = t' := by
  intro t t' e h h'
  by_cases ht : t = p <;> by_cases ht' : t' = p
  · rw [ht, ht']
  · rw [ht, upd_same] at h; rw [upd_other _ _ _ _ ht'] at h'; exact absurd h' (hnew e h t' ht')
  · rw [ht', upd_same] at h'; rw [upd_other _ _ _ _ ht] at h; exact absurd h (hnew e h' t ht)
  · rw [upd_other _ _ _ _ ht] at h; rw [upd_other _ _ _ _ ht'] at h'; exact hI.holdUniq t t' e h h'

theorem others_ne {s : St} (hI : Inv s) {p e : Nat} (hp : holdsEl (s.pcs p) = some e) {t e' : Nat} (ht : t ≠ p)
    (h : holdsEl (s.pcs t) = some e') : e' ≠ e := by
  intro hee; rw [hee] at h; exact ht (hI.holdUniq t p e h hp)

theorem slot_ne {s : St} (hI : Inv s) {p e : Nat} (hp : holdsEl (s.pcs p) = some e) {j e' : Nat}
    (h : s.m.latestVal (slotL j) = ptr e') : e' ≠ e := by
  intro hee; rw [hee] at h; exact hI.holdNoSlot p e j hp h

theorem inv_pcOnly (s : St) (p : Nat) (pc : Pc) (n' : Nat) (hI : Inv s) (hn : s.nextId ≤ n')
    (hnew : ∀ e, holdsEl pc = some e → e < n' ∧ cv s.m p (payL e) = (s.m.na (payL e)).clk ∧
      (∀ i, s.m.latestVal (slotL i) ≠ ptr e) ∧ (∀ t, t ≠ p → holdsEl (s.pcs t) ≠ some e))
    (hinit : ∀ e, inited pc = some e → (s.m.na (payL e)).val = content e)
    (hfresh : ∀ e, n' ≤ e → (s.m.na (payL e)).clk = 0) :
    Inv { m := s.m, pcs := upd s.pcs p pc, nextId := n', seen := s.seen } :=
  ⟨hold_upd (fun e h => (hnew e h).1) (fun t e _ h => Nat.lt_of_lt_of_le (hI.holdLt t e h) hn),
   hold_upd (fun e h => (hnew e h).2.1) (fun t e _ => hI.holdV t e),
   holdSlot_upd (fun e i h => (hnew e h).2.2.1 i) (fun t e i _ => hI.holdNoSlot t e i),
   holdUniq_upd hI (fun e h => (hnew e h).2.2.2),
   fun i e h => Nat.lt_of_lt_of_le (hI.slotLt i e h) hn, hI.slotV, hI.slotUniq, hI.viewsLe, hI.msgsLe, hI.lastWLe, hI.noRace,
   hold_upd hinit (fun t e _ => hI.holdVal t e), hI.slotVal, hI.seenOk, hfresh⟩

/-- a failed compare_exchange: a load of a slot; only the loading thread's view moves, within bounds -/
theorem inv_loadOnly (s : St) (p i k v : Nat) (ox : MO) (m' : Mem) (hI : Inv s)
    (hl : load s.m p (slotL i) ox k = some (v, m')) :
    Inv { m := m', pcs := s.pcs, nextId := s.nextId, seen := s.seen } := by
  have hB := fun e => (hI.bound e).of_load ⟨i, rfl⟩ (payL_ne_slotL e i) hl
  obtain ⟨_, _, _, _, rfl⟩ := load_some hl
  -- a holder's view is current, cannot shrink and cannot get ahead of the clock
  exact ⟨hI.holdLt, fun t e h => Nat.le_antisymm ((hB e).views t) (hI.holdV t e h ▸ load_cv_mono hl t (payL e)),
    hI.holdNoSlot, hI.holdUniq, hI.slotLt, hI.slotV, hI.slotUniq, fun t e => (hB e).views t,
    fun j e => (hB e).msgs _ ⟨j, rfl⟩, fun e => (hB e).lastW, hI.noRace, hI.holdVal, hI.slotVal, hI.seenOk, hI.fresh⟩

theorem afterTake_holds {k : Nat → Pc} (hk : ∀ e, holdsEl (k e) = some e) {old e : Nat}
    (h : holdsEl (afterTake k old) = some e) : old = ptr e := by
  unfold afterTake at h
  split at h
  · simp [holdsEl] at h
  · rename_i hz; rw [hk] at h; cases h; unfold ptr; omega

/-- a read-modify-write of slot `i` by `p`.  What it writes, if a pointer, was in `p`'s hands, initialised: the release
    hands `p`'s current view of the payload to the new message.  What `p` has in hand afterwards was in the slot: the
    acquire takes over the view of the message read.  `SwapIfNull` (only in) and the exchanges with null (only out) are
    the one-sided cases. -/
theorem inv_rmw (s : St) (p i : Nat) (ox : MO) (v : Nat) (pc : Pc) (hI : Inv s)
    (hin : ∀ e, v = ptr e → inited (s.pcs p) = some e ∧ ox.isRel = true)
    (hout : ∀ e, holdsEl pc = some e → s.m.latestVal (slotL i) = ptr e ∧ ox.isAcq = true) :
    Inv { m := (rmw s.m p (slotL i) ox v).2, pcs := upd s.pcs p pc, nextId := s.nextId, seen := s.seen } := by
  have hB := fun e => (hI.bound e).of_rmw ⟨i, rfl⟩ (payL_ne_slotL e i) p ox v
  have hin' : ∀ {e}, v = ptr e → holdsEl (s.pcs p) = some e := fun h => inited_holds (hin _ h).1
  have hs : ∀ {j e}, (rmw s.m p (slotL i) ox v).2.latestVal (slotL j) = ptr e →
      j = i ∧ v = ptr e ∨ j ≠ i ∧ s.m.latestVal (slotL j) = ptr e := by
    intro j e h
    by_cases hj : j = i
    · rw [hj, rmw_latestVal_same] at h; exact Or.inl ⟨hj, h⟩
    · rw [rmw_latestVal_other _ _ _ _ _ _ (slotL_ne hj)] at h; exact Or.inr ⟨hj, h⟩
  refine ⟨hold_upd (fun e h => hI.slotLt i e (hout e h).1) (fun t e _ => hI.holdLt t e),
    hold_upd (fun e h => (hI.bound e).rmw_acquires (hout e h).2 (payL_ne_slotL e i) v (hI.slotV i e (hout e h).1))
      (fun t e ht h => (rmw_cv_other _ _ _ _ _ _ _ ht).trans (hI.holdV t e h)),
    holdSlot_upd (fun e j h hj => ?_) (fun t e j ht h hj => ?_),
    holdUniq_upd hI (fun e h t _ h' => hI.holdNoSlot t e i h' (hout e h).1),
    fun j e h => ?_, fun j e h => ?_, fun j j' e h h' => ?_,
    fun t e => (hB e).views t, fun j e => (hB e).msgs _ ⟨j, rfl⟩, hI.lastWLe, hI.noRace,
    hold_upd (fun e h => hI.slotVal i e (hout e (inited_holds h)).1) (fun t e _ => hI.holdVal t e),
    fun j e h => ?_, hI.seenOk, hI.fresh⟩
  · -- `p` took `e` out of slot `i`: it is in no other slot, and not what `p` put in
    rcases hs hj with ⟨_, hv⟩ | ⟨hji, hj⟩
    · exact hI.holdNoSlot p e i (hin' hv) (hout e h).1
    · exact hji (hI.slotUniq j i e hj (hout e h).1)
  · rcases hs hj with ⟨_, hv⟩ | ⟨_, hj⟩
    · exact ht (hI.holdUniq t p e h (hin' hv))
    · exact hI.holdNoSlot t e j h hj
  · rcases hs h with ⟨_, hv⟩ | ⟨_, h⟩
    · exact hI.holdLt p e (hin' hv)
    · exact hI.slotLt j e h
  · rcases hs h with ⟨hj, hv⟩ | ⟨hj, h⟩
    · rw [hj]
      exact (hI.bound e).rmw_releases ⟨i, rfl⟩ (hin e hv).2 (payL_ne_slotL e i) v (hI.holdV p e (hin' hv))
    · exact (rmw_lmv_other _ _ _ _ _ _ _ (slotL_ne hj)).trans (hI.slotV j e h)
  · rcases hs h with ⟨hj, hv⟩ | ⟨hj, h⟩ <;> rcases hs h' with ⟨hj', hv'⟩ | ⟨hj', h'⟩
    · rw [hj, hj']
    · exact absurd h' (hI.holdNoSlot p e j' (hin' hv))
    · exact absurd h (hI.holdNoSlot p e j (hin' hv'))
    · exact hI.slotUniq j j' e h h'
  · rcases hs h with ⟨_, hv⟩ | ⟨_, h⟩
    · exact hI.holdVal p e (hin e hv).1
    · exact hI.slotVal j e h

/-- a plain read or write of the payload of `e` by its holder `p`, who keeps `e` or lets go of it; `hval`: if `p` keeps an
    initialised element, the payload holds its content -/
theorem inv_plain (s : St) (p e : Nat) (pc : Pc) (m' : Mem) (seen' : List (Nat × Nat × Nat)) (hI : Inv s)
    (hp : holdsEl (s.pcs p) = some e) (hm : PlainStep s.m m' p (payL e)) (hpc : ∀ e', holdsEl pc = some e' → e' = e)
    (hval : inited pc = some e → (m'.na (payL e)).val = content e) (hseen : ∀ x ∈ seen', x.2.2 = content x.2.1) :
    Inv { m := m', pcs := upd s.pcs p pc, nextId := s.nextId, seen := seen' } := by
  have hB := fun e' => (hI.bound e').of_plain hm
  -- the messages are those of `s.m`, and nothing about the other elements moves
  obtain ⟨atom', na', views', race'⟩ := m'
  obtain rfl : atom' = s.m.atom := hm.atom
  have hna : ∀ {e'}, e' ≠ e → na' (payL e') = s.m.na (payL e') := fun h => hm.naO _ (payL_ne h)
  have hclk : ∀ {e'}, e' ≠ e → (s.m.na (payL e')).clk = (na' (payL e')).clk := fun h => by rw [hna h]
  have hval' : ∀ {e'}, e' ≠ e → (s.m.na (payL e')).val = content e' → (na' (payL e')).val = content e' :=
    fun h hv => by rw [hna h]; exact hv
  exact ⟨hold_upd (fun e' h => hpc e' h ▸ hI.holdLt p e hp) (fun t e' _ => hI.holdLt t e'),
    hold_upd (fun e' h => hpc e' h ▸ hm.cvS.trans hm.clk.symm)
      (fun t e' ht h => (hm.cvO _ _ (Or.inl ht)).trans ((hI.holdV t e' h).trans (hclk (others_ne hI hp ht h)))),
    holdSlot_upd (fun e' j h => hpc e' h ▸ hI.holdNoSlot p e j hp) (fun t e' j _ => hI.holdNoSlot t e' j),
    holdUniq_upd hI (fun e' h t ht h' => ht (hI.holdUniq t p e (hpc e' h ▸ h') hp)),
    hI.slotLt, fun j e' h => (hI.slotV j e' h).trans (hclk (slot_ne hI hp h)), hI.slotUniq,
    fun t e' => (hB e').views t, fun j e' => (hB e').msgs _ ⟨j, rfl⟩, fun e' => (hB e').lastW, hm.race.trans hI.noRace,
    hold_upd (fun e' h => by cases hpc e' (inited_holds h); exact hval h)
      (fun t e' ht h => hval' (others_ne hI hp ht (inited_holds h)) (hI.holdVal t e' h)),
    fun j e' h => hval' (slot_ne hI hp h) (hI.slotVal j e' h), hseen,
    fun e' he' => (hclk (Nat.ne_of_gt (Nat.lt_of_lt_of_le (hI.holdLt p e hp) he'))).symm.trans (hI.fresh e' he')⟩

/-- the holder `p` of an initialised element reads its payload (`chk`, `tread`) and records what it saw -/
theorem inv_read (s : St) (p e : Nat) (pc : Pc) (hI : Inv s) (hp : holdsEl (s.pcs p) = some e)
    (hpi : inited (s.pcs p) = some e) (hpc : holdsEl pc = some e) :
    Inv { m := (naRead s.m p (payL e)).2, pcs := upd s.pcs p pc, nextId := s.nextId,
          seen := (p, e, (naRead s.m p (payL e)).1) :: s.seen } := by
  have hval : ((naRead s.m p (payL e)).2.na (payL e)).val = content e := by
    rw [naRead_na_same]; exact hI.holdVal p e hpi
  refine inv_plain s p e pc _ _ hI hp (naRead_plain (hI.holdV p e hp) (hI.lastWLe e))
    (fun e' h => Option.some.inj (h.symm.trans hpc)) (fun _ => hval) (fun x hx => ?_)
  rcases List.mem_cons.1 hx with hx | hx
  · rw [hx]; exact hI.holdVal p e hpi
  · exact hI.seenOk x hx

theorem ok_parts {o : Orders} (hok : o.ok = true) : o.casOk.isRel = true ∧ o.swapX.isAcq = true ∧ o.resetX.isAcq = true := by
  simpa [Orders.ok, Bool.and_eq_true, and_assoc] using hok

theorem inv_step (o : Orders) (hok : o.ok = true) (s s' : St) (a : Act) (hI : Inv s) (h : step o s a = some s') : Inv s' := by
  obtain ⟨hrel, hswap, hreset⟩ := ok_parts hok
  cases a with
  | start p =>
    simp only [step] at h
    split at h
    · cases h
      refine inv_pcOnly s p _ (s.nextId + 1) hI (Nat.le_succ _) ?_ (fun _ h => nomatch h)
        (fun e he => hI.fresh e (Nat.le_of_succ_le he))
      -- the new element is fresh: held nowhere, never accessed
      intro e he
      cases he
      exact ⟨Nat.lt_succ_self _, Nat.le_antisymm (hI.viewsLe p _) (hI.fresh _ (Nat.le_refl _) ▸ Nat.zero_le _),
        fun i hi => Nat.lt_irrefl _ (hI.slotLt i _ hi), fun t _ ht => Nat.lt_irrefl _ (hI.holdLt t _ ht)⟩
    · cases h
  | init p =>
    simp only [step] at h
    split at h
    · rename_i e hpc
      cases h
      have hp : holdsEl (s.pcs p) = some e := by rw [hpc]; rfl
      refine inv_plain s p e _ _ _ hI hp (naWrite_plain _ (hI.holdV p e hp)) (fun _ h => by cases h; rfl) (fun _ => ?_) hI.seenOk
      rw [naWrite_na_same]
    · cases h
  | casOk p i =>
    simp only [step] at h
    split at h
    · rename_i e hpc
      split at h
      · cases h
        refine inv_rmw s p i _ _ _ hI (fun e' h => ?_) (fun _ h => nomatch h)
        cases ptr_inj h; exact ⟨by rw [hpc]; rfl, hrel⟩
      · cases h
    · cases h
  | casFail p i k spur =>
    simp only [step] at h
    split at h
    · split at h
      · rename_i v m' hl
        split at h
        · cases h; exact inv_loadOnly s p i k v _ m' hI hl
        · cases h
      · cases h
    · cases h
  | giveUp p =>
    simp only [step] at h
    split at h
    · rename_i e hpc
      cases h
      have hp : holdsEl (s.pcs p) = some e := by rw [hpc]; rfl
      have hpi : inited (s.pcs p) = some e := by rw [hpc]; rfl
      refine inv_pcOnly s p _ s.nextId hI (Nat.le_refl _) ?_ ?_ hI.fresh
      · intro e' he'
        cases he'
        exact ⟨hI.holdLt p _ hp, hI.holdV p _ hp, fun i => hI.holdNoSlot p _ i hp,
          fun t ht h' => ht (hI.holdUniq t p _ h' hp)⟩
      · intro e' he'; cases he'; exact hI.holdVal p _ hpi
    · cases h
  | commit p =>
    simp only [step] at h
    split at h
    · cases h
      exact inv_pcOnly s p _ s.nextId hI (Nat.le_refl _) (fun _ h => nomatch h) (fun _ h => nomatch h) hI.fresh
    · cases h
  | undo p =>
    simp only [step] at h
    split at h
    · cases h
      exact inv_rmw s p _ _ 0 _ hI (fun e h => absurd h.symm (ptr_ne_zero e))
        (fun e h => ⟨afterTake_holds (fun _ => rfl) h, hswap⟩)
    · cases h
  | take c i viaReset =>
    simp only [step] at h
    split at h
    · cases h
      refine inv_rmw s c _ _ 0 _ hI (fun e h => absurd h.symm (ptr_ne_zero e))
        (fun e h => ⟨afterTake_holds (fun _ => rfl) h, ?_⟩)
      cases viaReset
      · exact hswap
      · exact hreset
    · cases h
  | chk p | tread p =>
    simp only [step] at h
    split at h
    · rename_i e hpc
      cases h
      exact inv_read s p e _ hI (by rw [hpc]; rfl) (by rw [hpc]; rfl) rfl
    · cases h
  | tdel c =>
    simp only [step] at h
    split at h
    · rename_i e hpc
      cases h
      have hp : holdsEl (s.pcs c) = some e := by rw [hpc]; rfl
      exact inv_plain s c e _ _ _ hI hp (naWrite_plain _ (hI.holdV c e hp)) (fun _ h => nomatch h) (fun h => nomatch h) hI.seenOk
    · cases h

theorem inv_run (o : Orders) (hok : o.ok = true) (s s' : St) (as : List Act) (hI : Inv s) (h : run o s as = some s') : Inv s' :=
  Run.ind (fun _ => rfl) (fun s a as => by simp only [run]; cases step o s a <;> rfl) (inv_step o hok) as s s' hI h

theorem reachable_inv {o : Orders} (hok : o.ok = true) {acts : List Act} {s : St} (h : run o init acts = some s) : Inv s :=
  inv_run o hok _ _ acts inv_init h

end Otel.RelAcq.Slot
