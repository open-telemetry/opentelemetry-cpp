import OtelVerif.Model.RelAcqHeadTail
import OtelVerif.Lemmas.RelAcq
import OtelVerif.Lemmas.Run
/-! Invariant of `Model/RelAcqHeadTail.lean`: message `k` of `head_` has value `k`; every `tail_` message carries a view of
    `head_` at least as large as its value (the consumer had seen that many commits when it wrote it); hence a producer that
    read `tail = t` with acquire can only read `head ≥ t` afterwards. -/
namespace Otel.RelAcq.HT
open Otel.Ring (upd upd_same upd_other)

theorem latest_getElem (msgs : List Msg) (h : msgs ≠ []) : msgs[msgs.length - 1]? = some (latest msgs) := by
  unfold latest
  rw [List.getLastD_eq_getLast?, ← List.getLast?_eq_getElem?]
  cases hl : msgs.getLast? with
  | none => exact absurd (List.getLast?_eq_none_iff.1 hl) h
  | some x => rfl

/-- "message `k` has value `k`" survives appending a message whose value is its position -/
theorem idx_snoc {msgs : List Msg} {new : Msg} (h : ∀ (k : Nat) (msg : Msg), msgs[k]? = some msg → msg.val = k)
    (hnew : new.val = msgs.length) (k : Nat) (msg : Msg) (hk : (msgs ++ [new])[k]? = some msg) : msg.val = k := by
  rw [List.getElem?_append] at hk
  split at hk
  · exact h k msg hk
  · rw [List.getElem?_singleton] at hk
    split at hk
    · cases hk; omega
    · cases hk

structure Inv (s : St) : Prop where
  headNe   : s.m.atom headL ≠ []
  headIdx  : ∀ (k : Nat) (msg : Msg), (s.m.atom headL)[k]? = some msg → msg.val = k
  tailView : ∀ msg ∈ s.m.atom tailL, msg.val ≤ msg.view.get headL
  consView : s.m.latestVal tailL ≤ cv s.m 0 headL
  ldHeadV  : ∀ p t, s.pcs p = .ldHead t → t ≤ cv s.m p headL
  cFaddV   : ∀ hc, s.pcs 0 = .cFadd hc → hc ≤ cv s.m 0 headL
  prodNe   : ∀ p, (∃ t, s.pcs p = .ldHead t) ∨ (∃ t h, s.pcs p = .cas t h) → p ≠ 0
  pairsOk  : ∀ x ∈ s.pairs, x.1 ≤ x.2

theorem head_ne_tail : headL ≠ tailL := by decide
theorem tail_ne_head : tailL ≠ headL := by decide

theorem inv_init : Inv init := by
  refine ⟨?_, ?_, ?_, ?_, ?_, ?_, ?_, ?_⟩
  · simp [init, Mem.init]
  · intro k msg h
    simp only [init, Mem.init] at h
    cases k with
    | zero => simp at h; subst h; rfl
    | succ k => simp at h
  · intro msg hm; simp [init, Mem.init, Msg.init] at hm; subst hm; simp
  · simp [init, init_latestVal]
  · intro p t h; simp [init] at h
  · intro hc h; simp [init] at h
  · intro p h; simp [init] at h
  · intro x hx; simp [init] at hx

/-- what the program counter of thread `q` asks of `q` and of its view `c` of `head_`: the three fields of `Inv` about
    program counters, thread by thread -/
def PcOk (q c : Nat) : Pc → Prop
  | .idle => True
  | .ldHead t => q ≠ 0 ∧ t ≤ c
  | .cas _ _ => q ≠ 0
  | .cFadd hc => q = 0 → hc ≤ c

theorem PcOk.mono {q c c' : Nat} {pc : Pc} (h : PcOk q c pc) (hc : c ≤ c') : PcOk q c' pc := by
  cases pc with
  | idle => trivial
  | ldHead t => exact ⟨h.1, Nat.le_trans h.2 hc⟩
  | cas t hd => exact h
  | cFadd x => exact fun h0 => Nat.le_trans (h h0) hc

theorem Inv.pcOk {s : St} (hI : Inv s) (q : Nat) : PcOk q (cv s.m q headL) (s.pcs q) := by
  cases hq : s.pcs q with
  | idle => trivial
  | ldHead t => exact ⟨hI.prodNe q (Or.inl ⟨t, hq⟩), hI.ldHeadV q t hq⟩
  | cas t hd => exact hI.prodNe q (Or.inr ⟨t, hd, hq⟩)
  | cFadd x => intro h0; subst h0; exact hI.cFaddV x hq

/-- the invariant after thread `p` moved to `pc`, given what holds of the messages of the new memory `m'` and that the
    other threads' views of `head_` did not shrink -/
theorem inv_frame {s : St} (hI : Inv s) (p : Nat) (pc : Pc) (m' : Mem) (pairs' : List (Nat × Nat))
    (hNe : m'.atom headL ≠ []) (hIdx : ∀ (k : Nat) (msg : Msg), (m'.atom headL)[k]? = some msg → msg.val = k)
    (hTail : ∀ msg ∈ m'.atom tailL, msg.val ≤ msg.view.get headL) (hCons : m'.latestVal tailL ≤ cv m' 0 headL)
    (hmono : ∀ q, q ≠ p → cv s.m q headL ≤ cv m' q headL) (hpc : PcOk p (cv m' p headL) pc)
    (hpairs : ∀ x ∈ pairs', x.1 ≤ x.2) : Inv { m := m', pcs := upd s.pcs p pc, pairs := pairs' } := by
  have hall : ∀ q pc', upd s.pcs p pc q = pc' → PcOk q (cv m' q headL) pc' := by
    intro q pc' hq
    by_cases hqp : q = p
    · rw [hqp, upd_same] at hq; rw [hqp, ← hq]; exact hpc
    · rw [upd_other _ _ _ _ hqp] at hq; rw [← hq]; exact (hI.pcOk q).mono (hmono q hqp)
  refine ⟨hNe, hIdx, hTail, hCons, fun q t hq => (hall q _ hq).2, fun hc hq => hall 0 _ hq rfl, fun q hq => ?_, hpairs⟩
  rcases hq with ⟨t, hq⟩ | ⟨t, hd, hq⟩
  · exact (hall q _ hq).1
  · exact hall q _ hq

/-- … after a load by `p`: the messages stay and views only grow -/
theorem inv_load {s : St} (hI : Inv s) {p l k v : Nat} {ox : MO} {m' : Mem} (hl : load s.m p l ox k = some (v, m'))
    (pc : Pc) (pairs' : List (Nat × Nat)) (hpc : PcOk p (cv m' p headL) pc) (hpairs : ∀ x ∈ pairs', x.1 ≤ x.2) :
    Inv { m := m', pcs := upd s.pcs p pc, pairs := pairs' } := by
  have hmono := load_cv_mono hl
  obtain ⟨_, _, _, _, rfl⟩ := load_some hl
  exact inv_frame hI p pc _ pairs' hI.headNe hI.headIdx hI.tailView (Nat.le_trans hI.consView (hmono 0 headL))
    (fun q _ => hmono q headL) hpc hpairs

theorem inv_step (o : Orders) (hok : o.ok = true) (s s' : St) (a : Act) (hI : Inv s) (h : step o s a = some s') : Inv s' := by
  have hok' : o.faddTail.isRel = true ∧ o.addLoadTail.isAcq = true := by
    simpa [Orders.ok, Bool.and_eq_true] using hok
  have hidle : ∀ p, Inv { m := s.m, pcs := upd s.pcs p .idle, pairs := s.pairs } := fun p =>
    inv_frame hI p .idle s.m _ hI.headNe hI.headIdx hI.tailView hI.consView (fun _ _ => Nat.le_refl _) trivial hI.pairsOk
  cases a with
  | pLdTail p k =>
    simp only [step] at h
    split at h
    · rename_i hc
      split at h
      · rename_i t m' hl
        cases h
        -- the message read carries a view of `head_` at least its value, which the acquire load joins
        obtain ⟨msg, hmem, hval, hge⟩ := load_acq_ge hok'.2 hl headL
        exact inv_load hI hl _ _ ⟨hc.1, hval ▸ Nat.le_trans (hI.tailView msg hmem) hge⟩ hI.pairsOk
      · cases h
    · cases h
  | pLdHead p k =>
    simp only [step] at h
    split at h
    · rename_i t hpc
      split at h
      · rename_i hh m' hl
        cases h
        obtain ⟨msg, hk, hv, hg, _⟩ := load_some hl
        refine inv_load hI hl _ _ (hI.prodNe p (Or.inl ⟨t, hpc⟩)) (fun x hx => ?_)
        rcases List.mem_cons.1 hx with hx | hx
        · -- the value read is the timestamp read, which is not below `p`'s view of `head_`
          rw [hx]
          show t ≤ hh
          rw [hv, hI.headIdx k msg hk]; exact Nat.le_trans (hI.ldHeadV p t hpc) hg
        · exact hI.pairsOk x hx
      · cases h
    · cases h
  | pCas p =>
    simp only [step] at h
    split at h
    · rename_i t hh hpc
      have hp0 : p ≠ 0 := hI.prodNe p (Or.inr ⟨t, hh, hpc⟩)
      split at h
      · rename_i hlat
        cases h
        -- the latest message of `head_` is number `length - 1`, so the new one has value `hh + 1 = length`, its position
        have hlen : hh + 1 = (s.m.atom headL).length := by
          rw [← hlat, show s.m.latestVal headL = _ from hI.headIdx _ _ (latest_getElem _ hI.headNe)]
          exact Nat.sub_add_cancel (List.length_pos_iff.2 hI.headNe)
        refine inv_frame hI p .idle _ _ ?_ ?_ ?_ ?_
          (fun q hq => Nat.le_of_eq (rmw_cv_other _ _ _ _ _ _ _ hq).symm) trivial hI.pairsOk
        · rw [rmw_atom_same]; simp
        · rw [rmw_atom_same]; exact idx_snoc hI.headIdx ((rmw_latestVal_same ..).trans hlen)
        · rw [rmw_atom_other _ _ _ _ _ _ tail_ne_head]; exact hI.tailView
        · rw [rmw_latestVal_other _ _ _ _ _ _ tail_ne_head, rmw_cv_other _ _ _ _ _ _ _ (Ne.symm hp0)]; exact hI.consView
      · cases h; exact hidle p
    · cases h
  | pQuit p =>
    simp only [step] at h
    split at h
    · cases h; exact hidle p
    · cases h
  | cLdHead k =>
    simp only [step] at h
    split at h
    · split at h
      · rename_i hc m' hl
        cases h
        obtain ⟨msg, hk, hv, _, _⟩ := load_some hl
        refine inv_load hI hl _ _ (fun _ => ?_) hI.pairsOk
        rw [hv, hI.headIdx k msg hk]; exact load_cv_same_ge hl
      · cases h
    · cases h
  | cFadd n =>
    simp only [step] at h
    split at h
    · rename_i hc hpc
      split at h
      · rename_i hn
        cases h
        -- the consumer has seen `head_ ≥` the new value of `tail_`, and the release attaches that view to the new message
        have hnew : s.m.latestVal tailL + n ≤ cv (rmw s.m 0 tailL o.faddTail (s.m.latestVal tailL + n)).2 0 headL := by
          have := hI.cFaddV hc hpc
          have := hI.consView
          have := rmw_cv_ge s.m 0 tailL o.faddTail (s.m.latestVal tailL + n) headL head_ne_tail
          omega
        refine inv_frame hI 0 .idle _ _ ?_ ?_ ?_ ?_
          (fun q hq => Nat.le_of_eq (rmw_cv_other _ _ _ _ _ _ _ hq).symm) trivial hI.pairsOk
        · rw [rmw_atom_other _ _ _ _ _ _ head_ne_tail]; exact hI.headNe
        · rw [rmw_atom_other _ _ _ _ _ _ head_ne_tail]; exact hI.headIdx
        · rw [rmw_atom_same, List.forall_mem_append, List.forall_mem_singleton]
          exact ⟨hI.tailView, Nat.le_trans (Nat.le_of_eq (rmw_latestVal_same s.m 0 tailL _ _))
            (Nat.le_trans hnew (rmw_rel_lmv_ge _ _ _ _ _ hok'.1))⟩
        · rw [rmw_latestVal_same]; exact hnew
      · cases h
    · cases h

theorem inv_run (o : Orders) (hok : o.ok = true) (s s' : St) (as : List Act) (hI : Inv s) (h : run o s as = some s') : Inv s' :=
  Run.ind (fun _ => rfl) (fun s a as => by simp only [run]; cases step o s a <;> rfl) (inv_step o hok) as s s' hI h

theorem reachable_inv {o : Orders} (hok : o.ok = true) {acts : List Act} {s : St} (h : run o init acts = some s) : Inv s :=
  inv_run o hok _ _ acts inv_init h

end Otel.RelAcq.HT
