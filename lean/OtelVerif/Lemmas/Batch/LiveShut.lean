import OtelVerif.Lemmas.Batch.Live
/-! # Termination of the worker after `Shutdown` (`DrainQueue`)

Once `is_shutdown` is set the worker reaches the end of `DoBackgroundWork` after a bounded number of its own
transitions, so the `join()` in `Shutdown` returns.  The measure is `32 * (queued + unpublished tickets) + off`, where
`off < 32` orders the program counters between two "paying" transitions (a `Consume`, which shrinks the queue, or a
successful publishing CAS).  A producer that had passed the `is_shutdown` test may still commit a record, a `ForceFlush`
caller that had passed it may still issue a ticket (there are finitely many of each): either raises the measure by at
most 64.  `off` is a tree of small pieces; the proofs use of each piece only its bounds (`off*_bd`), and of `off` only
how it differs between a pc and its successor, which is one level of the tree. -/
namespace Otel.Batch

def offE (s : St) : Nat := if s.head - s.tail > 0 then 3 else if s.pending ≤ s.notified then 3 else 10
def tgt (s : St) : Ret → Nat
  | .loop => offE s + 2
  | .drain => offE s
def offSize (s : St) (r : Ret) (n : Nat) : Nat :=
  if s.head - s.tail > 0 then 1 else if n > s.notified then 6 else 2 + tgt s r
def offT (s : St) (r : Ret) : Nat := 1 + offSize s r s.pending
def offNX (s : St) (r : Ret) (last : Bool) : Nat := if last then tgt s r else offT s r
def offPubLd (s : St) (r : Ret) (n : Nat) (last : Bool) : Nat := if n > s.notified then 2 else 1 + offNX s r last
def offDNot (s : St) (pn : Nat) : Nat := if pn ≤ s.notified then 1 else 1 + offT s .drain

def off (s : St) : Nat :=
  match s.wpc with
  | .idle => offE s + 2
  | .chk => offE s + 1
  | .dEmpty => offE s
  | .dPend => 1 + offDNot s s.pending
  | .dNot pn => offDNot s pn
  | .done => 0
  | .ticket r _ _ => offT s r
  | .size r n _ _ => offSize s r n
  | .consume _ _ _ _ _ => 0
  | .exportB r _ _ _ _ => offT s r + 8
  | .exportE r _ _ _ _ => offT s r + 7
  | .nChk r n last _ _ => if n > s.notified then 5 else 1 + offNX s r last
  | .flushB r n last _ _ => 2 + offPubLd s r n last
  | .flushE r n last _ _ => 1 + offPubLd s r n last
  | .pubLd r n last _ _ => offPubLd s r n last
  | .pubCas r _ last _ _ v => if s.notified = v then 1 else 1 + offNX s r last

/-- worker transitions still needed, at most, to reach the end of `DoBackgroundWork` once `is_shutdown` is set and the
    environment is quiet -/
def rank2 (s : St) : Nat := 32 * ((s.head - s.tail) + (s.pending - s.notified)) + off s

theorem offE_bd (s : St) : 0 < offE s ∧ offE s ≤ 10 := by unfold offE; (repeat' split) <;> omega
theorem tgt_bd (s : St) (r : Ret) : 0 < tgt s r ∧ tgt s r ≤ 12 := by
  have := offE_bd s; cases r <;> simp only [tgt] <;> omega
theorem offSize_bd (s : St) (r : Ret) (n : Nat) : 0 < offSize s r n ∧ offSize s r n ≤ 14 := by
  have := tgt_bd s r; unfold offSize; (repeat' split) <;> omega
theorem offT_bd (s : St) (r : Ret) : 0 < offT s r ∧ offT s r ≤ 15 := by
  have := offSize_bd s r s.pending; unfold offT; omega
theorem offNX_bd (s : St) (r : Ret) (last : Bool) : 0 < offNX s r last ∧ offNX s r last ≤ 15 := by
  have := tgt_bd s r; have := offT_bd s r; unfold offNX; split <;> omega
theorem offPubLd_bd (s : St) (r : Ret) (n : Nat) (last : Bool) : 0 < offPubLd s r n last ∧ offPubLd s r n last ≤ 16 := by
  have := offNX_bd s r last; unfold offPubLd; split <;> omega
theorem offDNot_bd (s : St) (pn : Nat) : 0 < offDNot s pn ∧ offDNot s pn ≤ 16 := by
  have := offT_bd s .drain; unfold offDNot; split <;> omega

/-- `off` is below 32, and vanishes only where the worker has finished or is about to take a batch -/
theorem off_bd (s : St) :
    off s < 32 ∧ (off s = 0 → s.wpc = .done ∨ ∃ r n T R num, s.wpc = .consume r n T R num) := by
  have := offE_bd s
  unfold off
  cases s.wpc with
  | done => exact ⟨by simp only; omega, fun _ => Or.inl rfl⟩
  | consume => exact ⟨by simp only; omega, fun _ => Or.inr ⟨_, _, _, _, _, rfl⟩⟩
  | ticket r _ _ | exportB r _ _ _ _ | exportE r _ _ _ _ =>
    have := offT_bd s r; exact ⟨by simp only; omega, fun h => by simp only at h; omega⟩
  | size r n _ _ => have := offSize_bd s r n; exact ⟨by simp only; omega, fun h => by simp only at h; omega⟩
  | nChk r _ last _ _ | pubCas r _ last _ _ _ =>
    have := offNX_bd s r last
    exact ⟨by simp only; split <;> omega, fun h => by simp only at h; split at h <;> omega⟩
  | flushB r n last _ _ | flushE r n last _ _ | pubLd r n last _ _ =>
    have := offPubLd_bd s r n last; exact ⟨by simp only; omega, fun h => by simp only at h; omega⟩
  | dPend => have := offDNot_bd s s.pending; exact ⟨by simp only; omega, fun h => by simp only at h; omega⟩
  | dNot pn => have := offDNot_bd s pn; exact ⟨by simp only; omega, fun h => by simp only at h; omega⟩
  | _ => exact ⟨by simp only; omega, fun h => by simp only at h; omega⟩

theorem rank2_zero (s : St) (hI : Inv s) (h0 : rank2 s = 0) : s.wpc = .done := by
  unfold rank2 at h0
  rcases (off_bd s).2 (by omega) with hd | ⟨r, n, T, R, num, hpc⟩
  · exact hd
  · -- a batch is about to be taken, so the queue is not empty
    have hw := hI.w
    unfold WInv at hw; rw [hpc] at hw
    have := hw.2.2.2.2.1; have := hw.2.2.2.2.2.2.1
    omega

theorem rank2_le (s : St) (hQ : QC s) : rank2 s ≤ 32 * (s.maxQ + (s.pending - s.notified)) + 31 := by
  have := (off_bd s).1
  have := hQ.1
  simp only [rank2]; omega

/-- the measure is computed from the worker's pc and four numbers -/
theorem rank2_same {s s' : St} (hw : s'.wpc = s.wpc) (a : s'.head = s.head) (b : s'.tail = s.tail)
    (c : s'.pending = s.pending) (d : s'.notified = s.notified) : rank2 s' = rank2 s := by
  have e : offE s' = offE s := by simp only [offE, a, b, c, d]
  have t : ∀ r, tgt s' r = tgt s r := fun r => by cases r <;> simp only [tgt, e]
  have z : ∀ r n, offSize s' r n = offSize s r n := fun r n => by simp only [offSize, a, b, d, t]
  have T : ∀ r, offT s' r = offT s r := fun r => by simp only [offT, z, c]
  simp only [rank2, off, offNX, offPubLd, offDNot, hw, a, b, c, d, e, t, z, T]

/-- a transition that moves the worker to `pc`, where `off` is `k` (computed in the state before), and writes besides
    only what the measure does not read -/
theorem rank2_move {s : St} {pc : WPc} {ex fu ie lc : Nat} {bs : List Nat} {k : Nat}
    (hk : off { s with wpc := pc, exported := ex, flushedUpTo := fu, inExport := ie, batches := bs, lateCalls := lc } = k)
    (hlt : k < off s) :
    rank2 { s with wpc := pc, exported := ex, flushedUpTo := fu, inExport := ie, batches := bs, lateCalls := lc } < rank2 s := by
  simp only [rank2, hk]; omega

/-- a transition that shrinks the queue or publishes a ticket -/
theorem rank2_pay (s s' : St)
    (h : (s'.head - s'.tail) + (s'.pending - s'.notified) < (s.head - s.tail) + (s.pending - s.notified)) : rank2 s' < rank2 s := by
  have := (off_bd s').1
  simp only [rank2]; omega

theorem off_next (s' : St) (r : Ret) (last : Bool) (T R : Nat) (hw : s'.wpc = next r last T R) : off s' = offNX s' r last := by
  unfold off; rw [hw]
  cases last <;> cases r <;> simp [next, offNX, tgt]

/-- a transition of another thread: a record committed or a ticket issued raises the measure by at most 64 (32 for
    the record or ticket, less than 32 for the pc, which may have to go round once more); nothing else changes it -/
theorem other_rank2 (s s' : St) (a : Act) (ha : isW a = false) (hI : Inv s) (h : step s a = some s') :
    rank2 s' ≤ rank2 s + 64 * ((s'.head - s.head) + (s'.pending - s.pending)) ∧
    (s'.head = s.head → s'.pending = s.pending → rank2 s' = rank2 s) := by
  have o := other_step s s' a ha h
  have heq : s'.head = s.head → s'.pending = s.pending → rank2 s' = rank2 s :=
    fun e1 e2 => rank2_same o.wpc e1 o.tail e2 o.notified
  refine ⟨?_, heq⟩
  by_cases e : s'.head = s.head ∧ s'.pending = s.pending
  · rw [heq e.1 e.2]; omega
  · -- growth by `d ≥ 1` costs `32 * d` for the records and tickets and less than `32 ≤ 32 * d` for the pc
    have := (off_bd s').1
    have hp := o.pending
    have hH : s.head ≤ s'.head := by have := o.head; omega
    have h3 : 1 ≤ (s'.head - s.head) + (s'.pending - s.pending) := by omega
    simp only [rank2, o.tail, o.notified]
    rw [← Nat.sub_add_sub_cancel hH hI.tailLe, ← Nat.sub_add_sub_cancel hp hI.notLe]
    generalize s'.head - s.head = dh at h3 ⊢
    generalize s'.pending - s.pending = dp at h3 ⊢
    generalize s.head - s.tail = q
    generalize s.pending - s.notified = u
    omega

/-- every worker transition lowers the measure: `consume` and the successful publishing CAS pay, every other one moves
    to a pc whose `off` is smaller - seen by unfolding `off` one level at the two pcs -/
theorem worker_rank2 (s s' : St) (a : Act) (ha : isW a = true) (hI : Inv s) (hQ : QC s) (hsd : s.isShutdown = true)
    (h : step s a = some s') : rank2 s' < rank2 s := by
  cases a with
  | wWake =>
    simp only [step] at h
    split at h
    · rename_i hidle
      cases h
      refine rank2_move (k := offE s + 1) rfl ?_
      simp only [off, hidle]; omega
    · cases h
  | wStep =>
    have hw := hI.w
    unfold WInv at hw
    cases wStep_trans h with
    | chk hpc =>
      refine rank2_move (k := offE s) (by simp only [off, hsd, ↓reduceIte]; rfl) ?_
      simp only [off, hpc]; omega
    | @ticket r T R hpc =>
      refine rank2_move (k := offSize s r s.pending) rfl ?_
      simp only [off, hpc, offT]; omega
    | @sizeEmpty r n T R hpc hS =>
      have hS : ¬ s.head - s.tail > 0 := by have := hI.maxBpos; omega
      refine rank2_move (k := if n > s.notified then 5 else 1 + tgt s r) rfl ?_
      simp only [off, hpc, offSize, hS, ↓reduceIte]; split <;> omega
    | @sizeTake r n T R num hpc _ _ _ =>
      refine rank2_move (k := 0) rfl ?_
      have := offSize_bd s r n
      simp only [off, hpc]; omega
    | consume hpc =>
      rw [hpc] at hw
      have := hw.2.2.2.2.1; have := hw.2.2.2.2.2.2.1
      exact rank2_pay _ _ (by simp only; omega)
    | @exportB r n T R num hpc =>
      refine rank2_move (k := offT s r + 7) rfl ?_
      simp only [off, hpc]; omega
    | @exportE r n T R num hpc =>
      by_cases hz : R - num = 0
      · refine rank2_move (k := if n > s.notified then 5 else 1 + offT s r)
          (by simp only [off, hz, ↓reduceIte]; rfl) ?_
        simp only [off, hpc]; split <;> omega
      · refine rank2_move (k := offT s r) (by simp only [off, hz, ↓reduceIte]; rfl) ?_
        simp only [off, hpc]; omega
    | @nChkFlush r n last T R hpc hgt =>
      refine rank2_move (k := 2 + offPubLd s r n last) rfl ?_
      simp only [off, hpc, offPubLd, hgt, ↓reduceIte]; omega
    | @nChkSkip r n last T R hpc hle =>
      refine rank2_move (k := offNX s r last) (off_next _ r last T R rfl) ?_
      simp only [off, hpc, hle, ↓reduceIte]; omega
    | @flushB r n last T R hpc =>
      refine rank2_move (k := 1 + offPubLd s r n last) rfl ?_
      simp only [off, hpc]; omega
    | @flushE r n last T R hpc =>
      refine rank2_move (k := offPubLd s r n last) rfl ?_
      simp only [off, hpc]; omega
    | pubLdStale hpc hgt =>
      refine rank2_move (k := 1) (by simp only [off, ↓reduceIte]) ?_
      simp only [off, hpc, offPubLd, hgt, ↓reduceIte]; omega
    | @pubLdSkip r n last T R hpc hle =>
      refine rank2_move (k := offNX s r last) (off_next _ r last T R rfl) ?_
      simp only [off, hpc, offPubLd, hle, ↓reduceIte]; omega
    | pubCasOk hpc heq =>
      -- the CAS publishes ticket `n`
      rw [hpc] at hw
      have := hw.1.2.2.1; have := hw.2
      exact rank2_pay _ _ (by simp only; omega)
    | pubCasRetry hpc hne hgt =>
      have hc := hQ.2
      rw [hpc] at hc; simp only at hc; omega
    | @pubCasSkip r n last T R v hpc hne _ =>
      refine rank2_move (k := offNX s r last) (off_next _ r last T R rfl) ?_
      simp only [off, hpc, hne, ↓reduceIte]; omega
    | dEmptyYes hpc _ =>
      -- the queue is empty: what is left depends on whether a ticket is still unpublished
      have hS : ¬ s.head - s.tail > 0 := by omega
      refine rank2_move (k := 1 + offDNot s s.pending) rfl ?_
      simp only [off, hpc, offE, offDNot, offT, offSize, hS, ↓reduceIte]; (repeat' split) <;> omega
    | dEmptyNo hpc _ =>
      have hS : s.head - s.tail > 0 := by have := hI.tailLe; omega
      refine rank2_move (k := offT s .drain) rfl ?_
      simp only [off, hpc, offE, offT, offSize, hS, ↓reduceIte]; omega
    | dPend hpc =>
      refine rank2_move (k := offDNot s s.pending) rfl ?_
      simp only [off, hpc]; omega
    | @dNotDone pn hpc _ =>
      refine rank2_move (k := 0) rfl ?_
      have := offDNot_bd s pn
      simp only [off, hpc]; omega
    | dNotMore hpc hgt =>
      refine rank2_move (k := offT s .drain) rfl ?_
      simp only [off, hpc, offDNot, hgt, ↓reduceIte]; omega
  | _ => cases ha

theorem quiet_step (s s' : St) (a : Act) (hI : Inv s) (hQ : QC s) (hsd : s.isShutdown = true) (h : step s a = some s') :
    rank2 s' + (if isW a then 1 else 0) ≤ rank2 s + 64 * ((s'.head - s.head) + (s'.pending - s.pending)) := by
  cases ha : isW a with
  | false => simpa using (other_rank2 s s' a ha hI h).1
  | true =>
    have := worker_rank2 s s' a ha hI hQ hsd h
    have w := worker_step s s' a ha h
    have hh := w.head; have hp := w.pending
    simp only [↓reduceIte]; omega

/-- the heart of the termination argument, by induction over the schedule: every record committed and every ticket
    issued on the way costs at most 64 more worker transitions -/
theorem done_of_wcount_noisy (as : List Act) : ∀ (s s' : St), Inv s → QC s → s.isShutdown = true → run s as = some s' →
    rank2 s + 64 * ((s'.head - s.head) + (s'.pending - s.pending)) ≤ wcount as → s'.wpc = .done := by
  induction as with
  | nil =>
    intro s s' hI _ _ h hr
    cases run_nil h
    exact rank2_zero s hI (by simp [wcount] at hr; omega)
  | cons a as ih =>
    intro s s' hI hQ hsd h hr
    obtain ⟨s1, hs1, h1⟩ := run_cons h
    have hI1 := inv_step s s1 a hI hs1
    obtain ⟨a1, a2, _, _, a3, hQ1⟩ := step_facts s s1 a hI hQ hs1
    obtain ⟨_, c1, c2, _⟩ := qc_run s1 s' as hI1 hQ1 h1
    have := quiet_step s s1 a hI hQ hsd hs1
    refine ih s1 s' hI1 hQ1 (a3 hsd) h1 ?_
    simp only [wcount] at hr
    omega

/-- in a quiet environment (nothing committed, no ticket issued on the way) -/
theorem done_of_wcount (as : List Act) : ∀ (s s' : St), Inv s → QC s → s.isShutdown = true → run s as = some s' →
    s'.head = s.head → s'.pending = s.pending → rank2 s ≤ wcount as → s'.wpc = .done :=
  fun s s' hI hQ hsd h hh hp hr => done_of_wcount_noisy as s s' hI hQ hsd h (by rw [hh, hp]; omega)

end Otel.Batch
