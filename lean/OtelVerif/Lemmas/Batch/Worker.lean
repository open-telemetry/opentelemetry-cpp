import OtelVerif.Lemmas.Batch.Inv
namespace Otel.Batch

/-- The worker's transitions, one constructor per branch of `wStep`, each with the pc it leaves and the outcome of the
    tests made on the way.  The batch taken at `size` is `min(queued, max_export_batch_size)`: `sizeEmpty` if that is 0,
    else `sizeTake`, where all that is ever used of the batch are its bounds. -/
inductive WTrans (s : St) : St → Prop
  | chk : s.wpc = .chk → WTrans s { s with wpc := if s.isShutdown then .dEmpty else .ticket .loop 0 0 }
  | ticket {r T R} : s.wpc = .ticket r T R → WTrans s { s with wpc := .size r s.pending T R }
  | sizeEmpty {r n T R} : s.wpc = .size r n T R → min (s.head - s.tail) s.maxB = 0 →
      WTrans s { s with wpc := .nChk r n true (if n > T then n else T) (if n > T then s.head - s.tail else R) }
  | sizeTake {r n T R} (num : Nat) : s.wpc = .size r n T R → 1 ≤ num → num ≤ s.maxB → num ≤ s.head - s.tail →
      WTrans s { s with wpc := .consume r n (if n > T then n else T) (if n > T then s.head - s.tail else R) num }
  | consume {r n T R num} : s.wpc = .consume r n T R num →
      WTrans s { s with tail := s.tail + num, wpc := .exportB r n T R num }
  | exportB {r n T R num} : s.wpc = .exportB r n T R num →
      WTrans s { s with inExport := s.inExport + 1, lateCalls := late s, wpc := .exportE r n T R num }
  | exportE {r n T R num} : s.wpc = .exportE r n T R num →
      WTrans s { s with exported := s.exported + num, batches := num :: s.batches, inExport := s.inExport - 1,
                        wpc := if R - num = 0 then .nChk r n false T 0 else .ticket r T (R - num) }
  | nChkFlush {r n last T R} : s.wpc = .nChk r n last T R → n > s.notified → WTrans s { s with wpc := .flushB r n last T R }
  | nChkSkip {r n last T R} : s.wpc = .nChk r n last T R → ¬ n > s.notified → WTrans s { s with wpc := next r last T R }
  | flushB {r n last T R} : s.wpc = .flushB r n last T R →
      WTrans s { s with lateCalls := late s, wpc := .flushE r n last T R }
  | flushE {r n last T R} : s.wpc = .flushE r n last T R →
      WTrans s { s with flushedUpTo := s.exported, wpc := .pubLd r n last T R }
  | pubLdStale {r n last T R} : s.wpc = .pubLd r n last T R → n > s.notified →
      WTrans s { s with wpc := .pubCas r n last T R s.notified }
  | pubLdSkip {r n last T R} : s.wpc = .pubLd r n last T R → ¬ n > s.notified → WTrans s { s with wpc := next r last T R }
  | pubCasOk {r n last T R v} : s.wpc = .pubCas r n last T R v → s.notified = v → WTrans s { s with notified := n }
  | pubCasRetry {r n last T R v} : s.wpc = .pubCas r n last T R v → ¬ s.notified = v → n > s.notified →
      WTrans s { s with wpc := .pubCas r n last T R s.notified }
  | pubCasSkip {r n last T R v} : s.wpc = .pubCas r n last T R v → ¬ s.notified = v → ¬ n > s.notified →
      WTrans s { s with wpc := next r last T R }
  | dEmptyYes : s.wpc = .dEmpty → s.head = s.tail → WTrans s { s with wpc := .dPend }
  | dEmptyNo : s.wpc = .dEmpty → ¬ s.head = s.tail → WTrans s { s with wpc := .ticket .drain 0 0 }
  | dPend : s.wpc = .dPend → WTrans s { s with wpc := .dNot s.pending }
  | dNotDone {pn} : s.wpc = .dNot pn → pn ≤ s.notified → WTrans s { s with wpc := .done }
  | dNotMore {pn} : s.wpc = .dNot pn → ¬ pn ≤ s.notified → WTrans s { s with wpc := .ticket .drain 0 0 }

theorem wStep_trans {s s' : St} (h : wStep s = some s') : WTrans s s' := by
  unfold wStep at h
  cases hpc : s.wpc with
  | idle => rw [hpc] at h; cases h
  | done => rw [hpc] at h; cases h
  | chk => rw [hpc] at h; cases h; exact .chk hpc
  | ticket => rw [hpc] at h; cases h; exact .ticket hpc
  | size r n T R =>
    rw [hpc] at h; simp only at h
    by_cases hS : min (s.head - s.tail) s.maxB = 0
    · rw [if_pos (by split <;> omega)] at h; cases h; exact .sizeEmpty hpc hS
    · rw [if_neg (by split <;> omega)] at h; cases h
      exact .sizeTake _ hpc (by split <;> omega) (by split <;> omega) (by split <;> omega)
  | consume => rw [hpc] at h; cases h; exact .consume hpc
  | exportB => rw [hpc] at h; cases h; exact .exportB hpc
  | exportE => rw [hpc] at h; cases h; exact .exportE hpc
  | nChk =>
    rw [hpc] at h; simp only at h
    split at h <;> cases h
    · exact .nChkFlush hpc ‹_›
    · exact .nChkSkip hpc ‹_›
  | flushB => rw [hpc] at h; cases h; exact .flushB hpc
  | flushE => rw [hpc] at h; cases h; exact .flushE hpc
  | pubLd =>
    rw [hpc] at h; simp only at h
    split at h <;> cases h
    · exact .pubLdStale hpc ‹_›
    · exact .pubLdSkip hpc ‹_›
  | pubCas =>
    rw [hpc] at h; simp only at h
    split at h
    · cases h
      have t := WTrans.pubCasOk hpc ‹_›
      rwa [hpc] at t
    · split at h <;> cases h
      · exact .pubCasRetry hpc ‹_› ‹_›
      · exact .pubCasSkip hpc ‹_› ‹_›
  | dEmpty =>
    rw [hpc] at h; simp only at h
    split at h <;> cases h
    · exact .dEmptyYes hpc ‹_›
    · exact .dEmptyNo hpc ‹_›
  | dPend => rw [hpc] at h; cases h; exact .dPend hpc
  | dNot =>
    rw [hpc] at h; simp only at h
    split at h <;> cases h
    · exact .dNotDone hpc ‹_›
    · exact .dNotMore hpc ‹_›

theorem late_zero {s : St} (hI : Inv s) (hnd : s.wpc ≠ .done) : late s = 0 := by
  unfold late
  split
  · rename_i hr; exact absurd (hI.retd hr).2.2.2 hnd
  · exact hI.late

/-- a step of the worker, which writes only its own pc, `tail`, `exported`, `notified`, `flushedUpTo` and the ghosts of
    the exporter calls: what remains to be shown of the invariant -/
theorem inv_wlocal {s : St} (hI : Inv s) (hnd : s.wpc ≠ .done) {pc : WPc} {tl ex nt fu ie lc : Nat} {bs : List Nat}
    (hnot : s.notified ≤ nt ∧ nt ≤ s.pending) (hexp : ex ≤ tl) (htail : tl ≤ s.head)
    (hflu : s.flushedUpTo ≤ fu ∧ fu ≤ ex) (hticks : ∀ t, 1 ≤ t → t ≤ nt → s.tickHead t ≤ fu)
    (hw : WInv { s with wpc := pc, tail := tl, exported := ex, notified := nt, flushedUpTo := fu, inExport := ie,
                        batches := bs, lateCalls := lc })
    (hbat : ∀ b ∈ bs, 1 ≤ b ∧ b ≤ s.maxB) (hlate : lc = 0) :
    Inv { s with wpc := pc, tail := tl, exported := ex, notified := nt, flushedUpTo := fu, inExport := ie,
                 batches := bs, lateCalls := lc } := by
  -- the worker ends only after `is_shutdown` (it is part of `WInv` at `done`)
  have hdone : pc = .done → s.isShutdown = true := by
    intro hd; subst hd; unfold WInv at hw; exact hw.2.2.1
  refine ⟨hI.maxBpos, hnot.2, hexp, htail, hflu.2, hticks, hI.tickHd, hI.tickMono, hw, ?_, ?_, hI.sdHd, ?_, ?_, ?_,
    hI.sdOnce, hbat, hlate⟩
  · intro f
    exact FInv_frame (s := s) f rfl (Nat.le_refl _) (Nat.le_refl _) (fun _ _ _ => rfl) hflu.1 hnot.1 (hI.f f)
  · intro i
    exact SInv_frame (s := s) i rfl rfl rfl rfl rfl (fun h => absurd h hnd) (hI.sd i)
  · intro h1 h2
    exact absurd (hI.free h1 h2).2.2 hnd
  · intro h1
    obtain ⟨a, b, c, _⟩ := hI.notSd h1
    refine ⟨a, b, c, fun hd => ?_⟩
    have := hdone hd
    rw [h1] at this; cases this
  · intro h1
    exact absurd (hI.retd h1).2.2.2 hnd

theorem inv_move {s : St} (hI : Inv s) (hnd : s.wpc ≠ .done) {pc : WPc} (hw : WInv { s with wpc := pc }) :
    Inv { s with wpc := pc } :=
  inv_wlocal hI hnd ⟨Nat.le_refl _, hI.notLe⟩ hI.expLe hI.tailLe ⟨Nat.le_refl _, hI.fluLe⟩ hI.ticks hw hI.batches hI.late

theorem inv_wake (s s' : St) (hI : Inv s) (h : step s .wWake = some s') : Inv s' := by
  simp only [step] at h
  split at h
  · rename_i hidle
    cases h
    have hw := hI.w
    unfold WInv at hw; rw [hidle] at hw
    exact inv_move hI (by rw [hidle]; simp) (by unfold WInv; exact hw)
  · cases h

theorem winv_next {s' : St} (r : Ret) (last : Bool) (T R : Nat) (hw : s'.wpc = next r last T R)
    (h1 : s'.exported = s'.tail) (h2 : s'.inExport = 0) (h3 : last = false → Tk s' T R)
    (h4 : r = .drain → s'.isShutdown = true) : WInv s' := by
  unfold WInv; rw [hw]; unfold next
  cases last
  · simp only [Bool.false_eq_true, if_false]; exact ⟨h1, h2, h3 rfl, h4⟩
  · cases r
    · simp only [if_true]; exact ⟨h1, h2⟩
    · simp only [if_true]; exact ⟨h1, h2, h4 rfl⟩

/-- a fresh `Export()` round owes nothing yet -/
theorem Tk_zero (s : St) : Tk s 0 0 := ⟨Nat.zero_le _, Nat.zero_le _, fun h => absurd h (by omega)⟩

theorem inv_wStep (s s' : St) (hI : Inv s) (h : step s .wStep = some s') : Inv s' := by
  have hnd : s.wpc ≠ .done := fun e => by simp [step, wStep, e] at h
  have htl := hI.tailLe
  have hw := hI.w
  unfold WInv at hw
  cases wStep_trans h with
  | chk hpc =>
    rw [hpc] at hw
    refine inv_move hI hnd ?_
    unfold WInv; simp only
    by_cases hsd : s.isShutdown = true
    · simp only [hsd, if_true]; exact ⟨hw.1, hw.2, trivial⟩
    · simp only [hsd]; exact ⟨hw.1, hw.2, Tk_zero _, nofun⟩
  | ticket hpc =>
    rw [hpc] at hw
    refine inv_move hI hnd ?_
    unfold WInv; simp only
    exact ⟨hw.1, hw.2.1, hw.2.2.1, Nat.le_refl _, hw.2.2.1.1, hw.2.2.2⟩
  | @sizeEmpty r n T R hpc hS =>
    -- nothing queued (`max_export_batch_size` is positive): ticket `n` is served as it stands
    have hmb := hI.maxBpos
    rw [hpc] at hw
    obtain ⟨w1, w2, _, w4, _, w6⟩ := hw
    refine inv_move hI hnd ?_
    unfold WInv; simp only
    refine ⟨w1, w2, w4, fun hn => ?_, nofun, w6⟩
    have := hI.tickHd n hn w4
    show s.tickHead n ≤ s.exported
    omega
  | @sizeTake r n T R num hpc h1 h2 h3 =>
    rw [hpc] at hw
    obtain ⟨w1, w2, hk, w4, w5, w6⟩ := hw
    -- the ticket now being served and what is owed to it
    have hTk : Tk s (if n > T then n else T) (if n > T then s.head - s.tail else R) := by
      by_cases hnT : n > T
      · simp only [hnT, if_true]
        refine ⟨w4, Nat.le_refl _, fun hn => ?_⟩
        have := hI.tickHd n hn w4
        omega
      · simp only [hnT, if_false]; exact hk
    refine inv_move hI hnd ?_
    unfold WInv; simp only
    exact ⟨w1, w2, hTk, by split <;> omega, h1, h2, h3, w6⟩
  | @consume r n T R num hpc =>
    rw [hpc] at hw
    obtain ⟨w1, w2, ⟨k1, k2, k3⟩, w4, w5, w6, w7, w8⟩ := hw
    refine inv_wlocal hI hnd ⟨Nat.le_refl _, hI.notLe⟩ (by omega) (by omega) ⟨Nat.le_refl _, hI.fluLe⟩ hI.ticks ?_
      hI.batches hI.late
    unfold WInv; simp only
    refine ⟨by omega, w2, ⟨k1, ?_, ?_⟩, w4, w5, w6, w8⟩
    · show R - num ≤ s.head - (s.tail + num); omega
    · intro hT; have := k3 hT; show s.tickHead T ≤ s.tail + num + (R - num); omega
  | exportB hpc =>
    rw [hpc] at hw
    refine inv_wlocal hI hnd ⟨Nat.le_refl _, hI.notLe⟩ hI.expLe hI.tailLe ⟨Nat.le_refl _, hI.fluLe⟩ hI.ticks ?_
      hI.batches (late_zero hI hnd)
    unfold WInv; simp only
    obtain ⟨w1, w2, w3⟩ := hw
    exact ⟨w1, by rw [w2], w3⟩
  | @exportE r n T R num hpc =>
    rw [hpc] at hw
    obtain ⟨w1, w2, ⟨k1, k2, k3⟩, w4, w5, w6, w7⟩ := hw
    have hfl := hI.fluLe
    refine inv_wlocal hI hnd ⟨Nat.le_refl _, hI.notLe⟩ (by omega) hI.tailLe ⟨Nat.le_refl _, by omega⟩ hI.ticks ?_ ?_ hI.late
    · unfold WInv
      by_cases hR : R - num = 0
      · -- the last batch owed to ticket `T = n`: everything queued when it was issued is exported
        simp only [hR, if_true]
        refine ⟨w1, by rw [w2], by rw [← w4]; exact k1, ?_, fun _ => ⟨k1, Nat.zero_le _, ?_⟩, w7⟩
        · intro hn; rw [← w4] at hn ⊢; have := k3 hn; rw [hR] at this; show s.tickHead T ≤ s.exported + num; omega
        · intro hT; have := k3 hT; rw [hR] at this; exact this
      · simp only [hR, if_false]
        exact ⟨w1, by rw [w2], ⟨k1, k2, k3⟩, w7⟩
    · intro b hb
      rcases List.mem_cons.mp hb with rfl | hb'
      · exact ⟨w5, w6⟩
      · exact hI.batches b hb'
  | nChkFlush hpc hgt =>
    rw [hpc] at hw
    refine inv_move hI hnd ?_
    unfold WInv; exact hw
  | nChkSkip hpc _ =>
    rw [hpc] at hw
    obtain ⟨w1, w2, _, _, w5, w6⟩ := hw
    exact inv_move hI hnd (winv_next _ _ _ _ rfl w1 w2 w5 w6)
  | flushB hpc =>
    rw [hpc] at hw
    refine inv_wlocal hI hnd ⟨Nat.le_refl _, hI.notLe⟩ hI.expLe hI.tailLe ⟨Nat.le_refl _, hI.fluLe⟩ hI.ticks ?_
      hI.batches (late_zero hI hnd)
    unfold WInv; exact hw
  | flushE hpc =>
    -- the exporter's ForceFlush has returned: everything exported so far is flushed
    rw [hpc] at hw
    have hfl := hI.fluLe
    refine inv_wlocal hI hnd ⟨Nat.le_refl _, hI.notLe⟩ hI.expLe hI.tailLe ⟨hfl, Nat.le_refl _⟩ ?_ ?_ hI.batches hI.late
    · intro t h1 h2; have := hI.ticks t h1 h2; omega
    · unfold WInv; exact hw
  | pubLdStale hpc hgt =>
    rw [hpc] at hw
    refine inv_move hI hnd ?_
    unfold WInv; exact ⟨hw, hgt⟩
  | pubLdSkip hpc _ =>
    rw [hpc] at hw
    obtain ⟨w1, w2, _, _, w5, w6⟩ := hw
    exact inv_move hI hnd (winv_next _ _ _ _ rfl w1 w2 w5 w6)
  | @pubCasOk r n last T R v hpc hv =>
    -- the CAS succeeds: ticket `n`, and with it every older one, is published
    rw [hpc] at hw
    obtain ⟨⟨w1, w2, w3, w4, w5, w6⟩, hvn⟩ := hw
    have hnl := hI.notLe
    refine inv_wlocal hI hnd ⟨by omega, w3⟩ hI.expLe hI.tailLe ⟨Nat.le_refl _, hI.fluLe⟩ ?_ ?_ hI.batches hI.late
    · intro t h1 h2
      have hm := hI.tickMono t n h1 h2 w3
      have := w4 (by omega)
      omega
    · unfold WInv; rw [show ({ s with notified := n } : St).wpc = s.wpc from rfl, hpc]
      exact ⟨⟨w1, w2, w3, w4, w5, w6⟩, hvn⟩
  | pubCasRetry hpc _ hgt =>
    rw [hpc] at hw
    refine inv_move hI hnd ?_
    unfold WInv; exact ⟨hw.1, hgt⟩
  | pubCasSkip hpc _ _ =>
    rw [hpc] at hw
    obtain ⟨⟨w1, w2, _, _, w5, w6⟩, _⟩ := hw
    exact inv_move hI hnd (winv_next _ _ _ _ rfl w1 w2 w5 w6)
  | dEmptyYes hpc hemp =>
    rw [hpc] at hw
    obtain ⟨w1, w2, w3⟩ := hw
    refine inv_move hI hnd ?_
    unfold WInv; simp only
    have := hI.sdHd w3
    exact ⟨w1, w2, w3, by omega⟩
  | dEmptyNo hpc _ =>
    rw [hpc] at hw
    refine inv_move hI hnd ?_
    unfold WInv; exact ⟨hw.1, hw.2.1, Tk_zero _, fun _ => hw.2.2⟩
  | dPend hpc =>
    rw [hpc] at hw
    refine inv_move hI hnd ?_
    unfold WInv; exact hw
  | dNotDone hpc _ =>
    rw [hpc] at hw
    refine inv_move hI hnd ?_
    unfold WInv; exact hw
  | dNotMore hpc _ =>
    rw [hpc] at hw
    refine inv_move hI hnd ?_
    unfold WInv; exact ⟨hw.1, hw.2.1, Tk_zero _, fun _ => hw.2.2.1⟩

end Otel.Batch
