import OtelVerif.Lemmas.Batch.Worker
namespace Otel.Batch
open Otel.Ring (upd upd_same upd_other)

theorem inv_pStep (s s' : St) (p : Nat) (d : Bool) (hI : Inv s) (h : step s (.pStep p d) = some s') : Inv s' := by
  -- a producer writes `pr`, `begun`, `dropped` and, when it commits, `head`, which only grows
  have key : ∀ (pr : Nat → PPc) (bg dr hd : Nat), s.head ≤ hd →
      Inv { s with pr := pr, begun := bg, dropped := dr, head := hd } := by
    intro pr bg dr hd hh
    refine ⟨hI.maxBpos, hI.notLe, hI.expLe, Nat.le_trans hI.tailLe hh, hI.fluLe, hI.ticks, ?_, hI.tickMono, ?_, ?_, ?_, ?_,
      hI.free, hI.notSd, hI.retd, hI.sdOnce, hI.batches, hI.late⟩
    · intro t h1 h2; exact Nat.le_trans (hI.tickHd t h1 h2) hh
    · exact WInv_frame (s := s) rfl rfl rfl rfl rfl (Nat.le_refl _) hh id (fun _ => rfl) (fun _ _ _ => rfl) rfl hI.w
    · intro f
      exact FInv_frame (s := s) f rfl hh (Nat.le_refl _) (fun _ _ _ => rfl) (Nat.le_refl _) (Nat.le_refl _) (hI.f f)
    · intro i; exact SInv_frame (s := s) i rfl rfl rfl rfl rfl id (hI.sd i)
    · intro h1; exact Nat.le_trans (hI.sdHd h1) hh
  simp only [step, pStep] at h
  -- every enabled branch is an instance of `key` (`head` stays or grows by one); a disabled one has `none = some s'`
  (repeat' split at h) <;> first | (cases h; exact key _ _ _ _ (by omega)) | cases h

/-- a flusher step that only changes `fl f` -/
theorem inv_flocal (s : St) (f : Nat) (v : FPc) (hI : Inv s) (hv : FInv { s with fl := upd s.fl f v } f) :
    Inv { s with fl := upd s.fl f v } := by
  refine ⟨hI.maxBpos, hI.notLe, hI.expLe, hI.tailLe, hI.fluLe, hI.ticks, hI.tickHd, hI.tickMono, ?_, ?_, ?_, hI.sdHd,
    hI.free, hI.notSd, hI.retd, hI.sdOnce, hI.batches, hI.late⟩
  · exact WInv_frame (s := s) rfl rfl rfl rfl rfl (Nat.le_refl _) (Nat.le_refl _) id (fun _ => rfl) (fun _ _ _ => rfl) rfl hI.w
  · intro g
    by_cases hg : g = f
    · subst hg; exact hv
    · exact FInv_frame (s := s) g (by simp [upd_other _ _ _ _ hg]) (Nat.le_refl _) (Nat.le_refl _) (fun _ _ _ => rfl)
        (Nat.le_refl _) (Nat.le_refl _) (hI.f g)
  · intro i; exact SInv_frame (s := s) i rfl rfl rfl rfl rfl id (hI.sd i)

theorem inv_fStep (s s' : St) (f : Nat) (r : Bool) (hI : Inv s) (h : step s (.fStep f r) = some s') : Inv s' := by
  simp only [step, fStep] at h
  have hf := hI.f f
  unfold FInv at hf
  cases hpc : s.fl f with
  | idle =>
    rw [hpc] at h; cases h
    exact inv_flocal s f _ hI (by unfold FInv; simp)
  | chk bh =>
    rw [hpc] at h hf; simp only at h hf
    split at h <;> (cases h; exact inv_flocal s f _ hI (by unfold FInv; simp [hf]))
  | ticket bh =>
    -- a new ticket is issued
    rw [hpc] at h hf; simp only at hf; cases h
    have hk : ∀ t, 1 ≤ t → t ≤ s.pending → upd s.tickHead (s.pending + 1) s.head t = s.tickHead t := by
      intro t _ ht; exact upd_other _ _ _ _ (by omega)
    refine ⟨hI.maxBpos, by show s.notified ≤ s.pending + 1; have := hI.notLe; omega, hI.expLe, hI.tailLe, hI.fluLe, ?_, ?_, ?_, ?_, ?_,
      ?_, hI.sdHd, hI.free, hI.notSd, hI.retd, hI.sdOnce, hI.batches, hI.late⟩
    · intro t h1 h2
      have h2' : t ≤ s.notified := h2
      show upd s.tickHead (s.pending + 1) s.head t ≤ s.flushedUpTo
      rw [hk t h1 (Nat.le_trans h2' hI.notLe)]; exact hI.ticks t h1 h2'
    · intro t h1 h2
      have h2' : t ≤ s.pending + 1 := h2
      show upd s.tickHead (s.pending + 1) s.head t ≤ s.head
      by_cases ht : t = s.pending + 1
      · subst ht; simp
      · rw [hk t h1 (by omega)]; exact hI.tickHd t h1 (by omega)
    · intro t u h1 h2 h3
      have h3' : u ≤ s.pending + 1 := h3
      show upd s.tickHead (s.pending + 1) s.head t ≤ upd s.tickHead (s.pending + 1) s.head u
      by_cases hu : u = s.pending + 1
      · subst hu
        by_cases ht : t = s.pending + 1
        · subst ht; exact Nat.le_refl _
        · rw [hk t h1 (by omega)]; simp; exact hI.tickHd t h1 (by omega)
      · rw [hk t h1 (by omega), hk u (by omega) (by omega)]; exact hI.tickMono t u h1 h2 (by omega)
    · exact WInv_frame (s := s) rfl rfl rfl rfl rfl (Nat.le_succ _) (Nat.le_refl _) id (fun _ => rfl) hk rfl hI.w
    · intro g
      by_cases hg : g = f
      · subst hg
        unfold FInv; simp only [upd_same]
        exact ⟨by omega, Nat.le_refl _, hf, fun v hv => by cases hv⟩
      · exact FInv_frame (s := s) g (by simp [upd_other _ _ _ _ hg]) (Nat.le_refl _) (Nat.le_succ _) hk
          (Nat.le_refl _) (Nat.le_refl _) (hI.f g)
    · intro i; exact SInv_frame (s := s) i rfl rfl rfl rfl rfl id (hI.sd i)
  | wait bh cur seen =>
    rw [hpc] at h hf; simp only at h hf
    obtain ⟨f1, f2, f3, f4⟩ := hf
    split at h
    · split at h
      · rename_i v
        cases h
        refine inv_flocal s f _ hI ?_
        unfold FInv; simp only [upd_same, decide_eq_true_eq]
        intro hge
        have hv := f4 v rfl
        have := hI.ticks cur f1 (by omega)
        omega
      · cases h
    · cases h
      refine inv_flocal s f _ hI ?_
      unfold FInv; simp only [upd_same]
      exact ⟨f1, f2, f3, fun v hv => by cases hv; exact Nat.le_refl _⟩
  | ret => rw [hpc] at h; cases h

end Otel.Batch
