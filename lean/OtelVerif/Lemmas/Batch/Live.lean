import OtelVerif.Lemmas.Batch.Main
/-! # Progress of the batch processors' flush protocol (`Model/BatchAbs.lean`)

The safety theorems say what is true *when* `ForceFlush` returns; this file is about *whether* the worker gets there.
A rank function on the worker's program counter strictly decreases with every worker transition until the newest flush
ticket is published (or the processor is shut down, which also ends every `ForceFlush` wait: its wake-up predicate
tests `is_shutdown` first), and no transition of any other thread changes it as long as no further ticket is issued.
Hence: in every run, from every reachable state, `5 * max_queue_size + 24` worker transitions suffice — whatever the
producers, the other `ForceFlush` callers and the `Shutdown` callers do in between. -/
namespace Otel.Batch

/-- more facts about reachable states: the queue never holds more than `max_queue_size` records (so neither does a
    snapshot `R` of its size); the worker's `expected` in the publishing CAS is the current `notified` unless its own CAS
    already succeeded -/
def QC (s : St) : Prop :=
  s.head - s.tail ≤ s.maxQ ∧
  (match s.wpc with
   | .pubCas _ n _ _ _ v => s.notified = v ∨ n ≤ s.notified
   | .consume _ _ _ R _ | .exportB _ _ _ R _ | .exportE _ _ _ R _ => R ≤ s.maxQ
   | _ => True)

/-- worker transitions in a schedule -/
def wcount : List Act → Nat
  | [] => 0
  | a :: as => (if isW a then 1 else 0) + wcount as

/-- ticket `P` no longer keeps a `ForceFlush` caller waiting -/
def Served (P : Nat) (s : St) : Prop := P ≤ s.notified ∨ s.isShutdown = true

/-- worker transitions still needed, at most, before the newest ticket `s.pending` is served.  A round from `idle` is
    `5 * maxQ + 13`: five transitions for each record owed (`ticket`, `size`, `consume`, `exportB`, `exportE`) and 13
    around them.  A pc that carries a ticket `n < s.pending` read earlier is charged the rest of its round plus a whole
    fresh one; the dearest is `size` with a stale `n`, `5 * maxQ + 24` -/
def rank (s : St) : Nat :=
  match s.wpc with
  | .idle => 5 * s.maxQ + 13
  | .chk => 5 * s.maxQ + 12
  | .ticket _ T R => if T < s.pending then 5 * s.maxQ + 11 else 5 * R + 11
  | .size _ n T R => if n < s.pending then 5 * s.maxQ + 24 else if T < s.pending then 5 * s.maxQ + 10 else 5 * R + 10
  | .consume _ n _ R _ => if n < s.pending then 5 * s.maxQ + 23 else 5 * R + 9
  | .exportB _ n _ R _ => if n < s.pending then 5 * s.maxQ + 22 else 5 * R + 8
  | .exportE _ n _ R _ => if n < s.pending then 5 * s.maxQ + 21 else 5 * R + 7
  | .nChk _ n _ _ _ => if n < s.pending then 5 * s.maxQ + 20 else 5
  | .flushB _ n _ _ _ => if n < s.pending then 5 * s.maxQ + 19 else 4
  | .flushE _ n _ _ _ => if n < s.pending then 5 * s.maxQ + 18 else 3
  | .pubLd _ n _ _ _ => if n < s.pending then 5 * s.maxQ + 17 else 2
  | .pubCas _ n _ _ _ v => if n < s.pending then (if s.notified = v then 5 * s.maxQ + 16 else 5 * s.maxQ + 15) else 1
  | .dEmpty | .dPend | .dNot _ | .done => 0

theorem qc_init (maxQ maxB : Nat) : QC (init maxQ maxB) := by simp [QC, init]

theorem rank_other (s s' : St) (hw : s'.wpc = s.wpc) (hn : s'.notified = s.notified) (hq : s'.maxQ = s.maxQ)
    (hp : s'.pending = s.pending) : rank s' = rank s := by
  unfold rank; rw [hw, hn, hq, hp]

theorem not_served {P : Nat} {s : St} (h : ¬ Served P s) : s.notified < P ∧ s.isShutdown = false := by
  simp only [Served, not_or] at h
  exact ⟨by omega, by cases hh : s.isShutdown <;> simp_all⟩

/-- what one worker transition does besides moving the pc: `notified` only grows, `QC` is kept, and unless the newest
    ticket is already served the transition serves it or lowers the rank -/
def WGoal (s s' : St) : Prop :=
  s.notified ≤ s'.notified ∧ QC s' ∧ (¬ Served s.pending s → Served s.pending s' ∨ rank s' < rank s)

theorem worker_goal (s s' : St) (a : Act) (ha : isW a = true) (hI : Inv s) (hQ : QC s) (h : step s a = some s') : WGoal s s' := by
  cases a with
  | wWake =>
    simp only [step] at h
    split at h
    · rename_i hidle
      cases h
      refine ⟨Nat.le_refl _, ⟨hQ.1, trivial⟩, fun _ => Or.inr ?_⟩
      simp [rank, hidle]
    · cases h
  | wStep =>
    have hw := hI.w
    have hc := hQ.2
    have hq := hQ.1
    unfold WInv at hw
    -- leaving `NotifyCompletion` with `n ≤ notified`: while the newest ticket is unserved `n` is stale, so the pc was
    -- charged more than the whole round that comes next
    have skip : ∀ (r : Ret) (last : Bool) (T R n : Nat), (last = false → Tk s T R) → ¬ n > s.notified →
        (n < s.pending → 5 * s.maxQ + 13 < rank s) → WGoal s { s with wpc := next r last T R } := by
      intro r last T R n hTk hle hst
      refine ⟨Nat.le_refl _, ⟨hq, ?_⟩, fun hns => Or.inr ?_⟩
      · cases last <;> cases r <;> simp [next]
      · have hn := (not_served hns).1
        have : rank { s with wpc := next r last T R } ≤ 5 * s.maxQ + 13 := by
          cases last with
          | true => cases r <;> simp [rank, next]
          | false =>
            have := (hTk rfl).2.1
            simp only [rank, next, Bool.false_eq_true, ↓reduceIte]; split <;> omega
        have := hst (by omega)
        omega
    -- after `is_shutdown` every `ForceFlush` wait is over
    have drain : ∀ {pc : WPc}, QC { s with wpc := pc } → s.isShutdown = true → WGoal s { s with wpc := pc } :=
      fun hqc hsd => ⟨Nat.le_refl _, hqc, fun hns => absurd (Or.inr hsd) hns⟩
    cases wStep_trans h with
    | chk hpc =>
      refine ⟨Nat.le_refl _, ⟨hq, ?_⟩, fun hns => Or.inr ?_⟩
      · cases s.isShutdown <;> simp
      · simp only [rank, hpc, (not_served hns).2, Bool.false_eq_true, ↓reduceIte]
        split <;> omega
    | ticket hpc =>
      refine ⟨Nat.le_refl _, ⟨hq, trivial⟩, fun _ => Or.inr ?_⟩
      simp only [rank, hpc, Nat.lt_irrefl, ↓reduceIte]
      split <;> omega
    | sizeEmpty hpc _ =>
      refine ⟨Nat.le_refl _, ⟨hq, trivial⟩, fun _ => Or.inr ?_⟩
      simp only [rank, hpc]; (repeat' split) <;> omega
    | sizeTake num hpc _ _ _ =>
      rw [hpc] at hw
      obtain ⟨_, _, ⟨_, hR, _⟩, hnp, hTn, _⟩ := hw
      refine ⟨Nat.le_refl _, ⟨hq, by simp only; split <;> omega⟩, fun _ => Or.inr ?_⟩
      simp only [rank, hpc]; (repeat' split) <;> omega
    | consume hpc =>
      rw [hpc] at hw hc
      have := hw.2.2.2.2.2.2.1
      refine ⟨Nat.le_refl _, ⟨by simp only; omega, hc⟩, fun _ => Or.inr ?_⟩
      simp only [rank, hpc]; split <;> omega
    | exportB hpc =>
      rw [hpc] at hc
      refine ⟨Nat.le_refl _, ⟨hq, hc⟩, fun _ => Or.inr ?_⟩
      simp only [rank, hpc]; split <;> omega
    | @exportE r n T R num hpc =>
      rw [hpc] at hw
      obtain ⟨_, _, _, hTn, hnum, _, _⟩ := hw
      refine ⟨Nat.le_refl _, ⟨hq, ?_⟩, fun _ => Or.inr ?_⟩
      · by_cases hz : R - num = 0 <;> simp [hz]
      · by_cases hz : R - num = 0 <;> simp only [rank, hpc, hz, ↓reduceIte] <;> (repeat' split) <;> omega
    | nChkFlush hpc _ =>
      refine ⟨Nat.le_refl _, ⟨hq, trivial⟩, fun _ => Or.inr ?_⟩
      simp only [rank, hpc]; split <;> omega
    | nChkSkip hpc hle =>
      rw [hpc] at hw
      exact skip _ _ _ _ _ hw.2.2.2.2.1 hle (fun hst => by simp only [rank, hpc, hst, ↓reduceIte]; omega)
    | flushB hpc =>
      refine ⟨Nat.le_refl _, ⟨hq, trivial⟩, fun _ => Or.inr ?_⟩
      simp only [rank, hpc]; split <;> omega
    | flushE hpc =>
      refine ⟨Nat.le_refl _, ⟨hq, trivial⟩, fun _ => Or.inr ?_⟩
      simp only [rank, hpc]; split <;> omega
    | pubLdStale hpc _ =>
      refine ⟨Nat.le_refl _, ⟨hq, Or.inl rfl⟩, fun _ => Or.inr ?_⟩
      simp only [rank, hpc, ↓reduceIte]; split <;> omega
    | pubLdSkip hpc hle =>
      rw [hpc] at hw
      exact skip _ _ _ _ _ hw.2.2.2.2.1 hle (fun hst => by simp only [rank, hpc, hst, ↓reduceIte]; omega)
    | @pubCasOk r n last T R v hpc heq =>
      -- the CAS publishes ticket `n`: the newest one, or else the pc is charged one less from now on
      rw [hpc] at hw
      have := hw.2
      refine ⟨by simp only; omega, ⟨hq, ?_⟩, fun _ => ?_⟩
      · simp only [hpc]; exact Or.inr (Nat.le_refl _)
      · by_cases hst : n < s.pending
        · have hne : n ≠ v := by omega
          right; simp only [rank, hpc, hst, heq, hne, ↓reduceIte]; omega
        · have := hw.1.2.2.1
          left; left; simp only; omega
    | pubCasRetry hpc hne hgt =>
      rw [hpc] at hc; simp only at hc; omega
    | pubCasSkip hpc hne hle =>
      rw [hpc] at hw
      exact skip _ _ _ _ _ hw.1.2.2.2.2.1 hle (fun hst => by simp only [rank, hpc, hst, hne, ↓reduceIte]; omega)
    | dEmptyYes hpc _ => rw [hpc] at hw; exact drain ⟨hq, trivial⟩ hw.2.2
    | dEmptyNo hpc _ => rw [hpc] at hw; exact drain ⟨hq, trivial⟩ hw.2.2
    | dPend hpc => rw [hpc] at hw; exact drain ⟨hq, trivial⟩ hw.2.2.1
    | dNotDone hpc _ => rw [hpc] at hw; exact drain ⟨hq, trivial⟩ hw.2.2.1
    | dNotMore hpc _ => rw [hpc] at hw; exact drain ⟨hq, trivial⟩ hw.2.2.1
  | _ => cases ha

theorem step_facts (s s' : St) (a : Act) (hI : Inv s) (hQ : QC s) (h : step s a = some s') :
    s.head ≤ s'.head ∧ s.pending ≤ s'.pending ∧ s'.maxQ = s.maxQ ∧ s.notified ≤ s'.notified ∧
    (s.isShutdown = true → s'.isShutdown = true) ∧ QC s' := by
  cases ha : isW a with
  | true =>
    have w := worker_step s s' a ha h
    obtain ⟨b1, b2, _⟩ := worker_goal s s' a ha hI hQ h
    exact ⟨Nat.le_of_eq w.head.symm, Nat.le_of_eq w.pending.symm, w.maxQ, b1, fun hs => by rw [w.isShutdown]; exact hs, b2⟩
  | false =>
    have o := other_step s s' a ha h
    have hh := o.head
    refine ⟨by omega, o.pending, o.maxQ, Nat.le_of_eq o.notified.symm, o.isShutdown, ?_⟩
    unfold QC at *
    rw [o.wpc, o.notified, o.maxQ, o.tail]
    exact ⟨by omega, hQ.2⟩

theorem qc_run (s s' : St) (as : List Act) (hI : Inv s) (hQ : QC s) (h : run s as = some s') :
    QC s' ∧ s.head ≤ s'.head ∧ s.pending ≤ s'.pending ∧ s'.maxQ = s.maxQ ∧ s.notified ≤ s'.notified ∧
    (s.isShutdown = true → s'.isShutdown = true) := by
  refine (run_keeps (P := fun t => Inv t ∧ QC t ∧ s.head ≤ t.head ∧ s.pending ≤ t.pending ∧ t.maxQ = s.maxQ ∧
    s.notified ≤ t.notified ∧ (s.isShutdown = true → t.isShutdown = true)) ?_
    ⟨hI, hQ, Nat.le_refl _, Nat.le_refl _, rfl, Nat.le_refl _, id⟩ h).2
  intro t t' a ⟨tI, tQ, b0, b1, b2, b3, b4⟩ ht
  obtain ⟨a0, a1, a2, a3, a4, a5⟩ := step_facts t t' a tI tQ ht
  exact ⟨inv_step t t' a tI ht, a5, by omega, by omega, a2.trans b2, by omega, fun hs => a4 (b4 hs)⟩

theorem reachable_qc (maxQ maxB : Nat) (hb : 1 ≤ maxB) (as : List Act) (s : St) (h : run (init maxQ maxB) as = some s) : QC s :=
  (qc_run _ _ as (inv_init maxQ maxB hb) (qc_init maxQ maxB) h).1

theorem served_run (P : Nat) (s s' : St) (as : List Act) (hI : Inv s) (hQ : QC s) (h : run s as = some s')
    (hS : Served P s) : Served P s' := by
  obtain ⟨_, _, _, _, hn, hsd⟩ := qc_run s s' as hI hQ h
  rcases hS with hS | hS
  · left; omega
  · right; exact hsd hS

/-- `rank` never exceeds `5 * max_queue_size + 24`, and only in `DrainQueue`, that is after `is_shutdown`, is nothing
    left to do -/
theorem rank_bd (s : St) (hI : Inv s) (hQ : QC s) : rank s ≤ 5 * s.maxQ + 24 ∧ (rank s = 0 → s.isShutdown = true) := by
  have hw := hI.w
  have hq := hQ.1
  have hc := hQ.2
  unfold WInv at hw
  unfold rank
  have pos : ∀ {x : Nat}, x ≤ 5 * s.maxQ + 24 ∧ 0 < x → x ≤ 5 * s.maxQ + 24 ∧ (x = 0 → s.isShutdown = true) :=
    fun h => ⟨h.1, fun h0 => by omega⟩
  cases hpc : s.wpc with
  | dEmpty => rw [hpc] at hw; exact ⟨Nat.zero_le _, fun _ => hw.2.2⟩
  | dPend | dNot | done => rw [hpc] at hw; exact ⟨Nat.zero_le _, fun _ => hw.2.2.1⟩
  -- everywhere else `rank` is positive.  What is still owed to a ticket is part of the queue, which is within capacity
  | ticket | size => rw [hpc] at hw; have := hw.2.2.1.2.1; refine pos ?_; simp only; (repeat' split) <;> omega
  | consume | exportB | exportE => rw [hpc] at hc; refine pos ?_; simp only at hc ⊢; split <;> omega
  -- the other pcs carry no `R`: constants, or `if`s of constants (two nested at `pubCas`)
  | idle | chk => refine pos ?_; simp only; omega
  | nChk | flushB | flushE | pubLd => refine pos ?_; simp only; split <;> omega
  | pubCas => refine pos ?_; simp only; (repeat' split) <;> omega

/-- every worker transition lowers `rank` until the newest ticket is served and no other transition changes it, so
    `rank s` worker transitions serve it, whatever else happens in between -/
theorem served_of_wcount (as : List Act) : ∀ (s s' : St), Inv s → QC s → run s as = some s' → s'.pending = s.pending →
    rank s ≤ wcount as → Served s.pending s' := by
  induction as with
  | nil =>
    intro s s' hI hQ h _ hr
    cases run_nil h
    exact Or.inr ((rank_bd s hI hQ).2 (by simpa [wcount] using hr))
  | cons a as ih =>
    intro s s' hI hQ h hp hr
    obtain ⟨s1, hs1, h1⟩ := run_cons h
    have hI1 := inv_step s s1 a hI hs1
    obtain ⟨_, a1, _, _, _, hQ1⟩ := step_facts s s1 a hI hQ hs1
    obtain ⟨_, _, c2, _, _, _⟩ := qc_run s1 s' as hI1 hQ1 h1
    have hp1 : s1.pending = s.pending := by omega
    have hp' : s'.pending = s1.pending := by omega
    by_cases hS : Served s.pending s
    · exact served_run _ s s' (a :: as) hI hQ h hS
    · rw [← hp1]
      cases ha : isW a with
      | true =>
        rcases (worker_goal s s1 a ha hI hQ hs1).2.2 hS with hg | hg
        · exact served_run _ s1 s' as hI1 hQ1 h1 (hp1 ▸ hg)
        · exact ih s1 s' hI1 hQ1 h1 hp' (by simp only [wcount, ha, ↓reduceIte] at hr; omega)
      | false =>
        have o := other_step s s1 a ha hs1
        have hrk := rank_other s s1 o.wpc o.notified o.maxQ hp1
        exact ih s1 s' hI1 hQ1 h1 hp' (by simp only [wcount, ha] at hr; simp at hr; omega)

end Otel.Batch
