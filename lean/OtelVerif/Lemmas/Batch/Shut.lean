import OtelVerif.Lemmas.Batch.Others
namespace Otel.Batch
open Otel.Ring (upd upd_same upd_other)

/-- caller `i` has moved to `v` while `shutdown_m` was free or its own, and is free or its own afterwards: another caller
    `j ≠ i` cannot hold it before or after, and its invariant then only says that it is not the holder -/
theorem sinv_holder {s s' : St} {i : Nat} {v : SPc} (hsd : s'.sd = upd s.sd i v)
    (hold : s.sdLock = none ∨ s.sdLock = some i) (hnew : s'.sdLock = none ∨ s'.sdLock = some i)
    (h : ∀ j, SInv s j) (hi : SInv s' i) (j : Nat) : SInv s' j := by
  by_cases hj : j = i
  · exact hj ▸ hi
  have hne : s'.sdLock ≠ some j := by
    rcases hnew with hn | hn <;> rw [hn]
    · simp
    · intro e; cases e; exact hj rfl
  have hcontra : s.sdLock = some j → False := by
    intro e
    rcases hold with ho | ho <;> rw [ho] at e
    · cases e
    · cases e; exact hj rfl
  have h := h j
  unfold SInv at *
  rw [hsd, upd_other _ _ _ _ hj]
  cases hpc : s.sd j with
  | idle | begin | ret => exact hne
  | locked | joinW | expB | expE | unlockP => rw [hpc] at h; exact absurd h.1 hcontra

theorem inv_sStep (s s' : St) (i : Nat) (hI : Inv s) (h : step s (.sStep i) = some s') : Inv s' := by
  simp only [step, sStep] at h
  have hs := hI.sd i
  unfold SInv at hs
  -- a `Shutdown` caller writes `sd`, `shutdown_m`, `is_shutdown` (never resetting it) and the ghosts of the shutdown
  have hwf : ∀ {sd : Nat → SPc} {lk : Option Nat} {isd jn rt : Bool} {sh xs lc : Nat}, (s.isShutdown = true → isd = true) →
      (s.isShutdown = true → sh = s.sdHead) →
      WInv { s with sd := sd, sdLock := lk, isShutdown := isd, sdHead := sh, joined := jn, expShutdowns := xs,
                    lateCalls := lc, sdReturned := rt } :=
    fun e1 e2 => WInv_frame (s := s) rfl rfl rfl rfl rfl (Nat.le_refl _) (Nat.le_refl _) e1 e2 (fun _ _ _ => rfl) rfl hI.w
  have hff : ∀ {sd : Nat → SPc} {lk : Option Nat} {isd jn rt : Bool} {sh xs lc : Nat} (f : Nat),
      FInv { s with sd := sd, sdLock := lk, isShutdown := isd, sdHead := sh, joined := jn, expShutdowns := xs,
                    lateCalls := lc, sdReturned := rt } f :=
    fun f => FInv_frame (s := s) f rfl (Nat.le_refl _) (Nat.le_refl _) (fun _ _ _ => rfl) (Nat.le_refl _) (Nat.le_refl _)
      (hI.f f)
  cases hpc : s.sd i with
  | idle =>
    rw [hpc] at h hs; cases h
    refine ⟨hI.maxBpos, hI.notLe, hI.expLe, hI.tailLe, hI.fluLe, hI.ticks, hI.tickHd, hI.tickMono,
      hwf id (fun _ => rfl), hff, ?_, hI.sdHd, hI.free, hI.notSd,
      hI.retd, hI.sdOnce, hI.batches, hI.late⟩
    intro j
    by_cases hj : j = i
    · subst hj; unfold SInv; simp only [upd_same]; exact hs
    · exact SInv_frame (s := s) j (by simp [upd_other _ _ _ _ hj]) rfl rfl rfl rfl id (hI.sd j)
  | begin =>
    -- take `shutdown_m`
    rw [hpc] at h; simp only at h
    split at h
    · rename_i hfree; cases h
      refine ⟨hI.maxBpos, hI.notLe, hI.expLe, hI.tailLe, hI.fluLe, hI.ticks, hI.tickHd, hI.tickMono,
        hwf id (fun _ => rfl), hff, ?_, hI.sdHd, ?_, hI.notSd,
        hI.retd, hI.sdOnce, hI.batches, hI.late⟩
      · refine sinv_holder (s := s) rfl (Or.inl hfree) (Or.inr rfl) hI.sd ?_
        unfold SInv; simp only [upd_same]
        -- `i` holds the lock now (`simp` has closed `some i = some i`); if `is_shutdown` is set already, the lock was
        -- free under it, so a whole shutdown has completed
        exact ⟨trivial, fun hsd => hI.free hsd hfree⟩
      · intro _ hn; cases hn
    · cases h
  | locked =>
    -- `is_shutdown.exchange(true)`
    rw [hpc] at h hs; cases h
    obtain ⟨hl, hsh⟩ := hs
    refine ⟨hI.maxBpos, hI.notLe, hI.expLe, hI.tailLe, hI.fluLe, hI.ticks, hI.tickHd, hI.tickMono,
      hwf (fun _ => rfl) (fun h => by simp [h]), hff, ?_, ?_, ?_, ?_,
      ?_, hI.sdOnce, hI.batches, hI.late⟩
    · refine sinv_holder (s := s) rfl (Or.inr hl) (Or.inr hl) hI.sd ?_
      unfold SInv; simp only [upd_same]
      by_cases hjo : s.joined = true
      · by_cases hsd : s.isShutdown = true
        · simp only [hjo, hsd, if_true]
          obtain ⟨a, b, c⟩ := hsh hsd
          -- goes straight to `unlockP`; `is_shutdown = true` and `joined = true` are closed by `simp` (the first was
          -- just written, the second is `hjo`)
          exact ⟨hl, trivial, c, trivial, a⟩
        · have := (hI.notSd (by simpa using hsd)).2.1
          rw [hjo] at this; cases this
      · simp only [hjo]
        have hsd : s.isShutdown = false := by
          cases hh : s.isShutdown with
          | false => rfl
          | true => exact absurd (hsh hh).2.1 hjo
        simp only [Bool.false_eq_true, if_false]
        -- goes to `joinW a` with `a` the old `is_shutdown`, which is false; the new `is_shutdown = true` and
        -- `joined = false` (`hjo`) are closed by `simp`
        exact ⟨hl, trivial, hsd, (hI.notSd hsd).1, trivial⟩
    · intro _
      show (if s.isShutdown = true then s.sdHead else s.head) ≤ s.head
      split
      · rename_i hsd; exact hI.sdHd hsd
      · exact Nat.le_refl _
    · intro _ hn
      have : s.sdLock = none := hn
      rw [hl] at this; cases this
    · intro hf; cases hf
    · intro hr
      obtain ⟨a, b, c, d⟩ := hI.retd hr
      exact ⟨rfl, b, c, d⟩
  | joinW a =>
    rw [hpc] at h hs; simp only at h
    obtain ⟨hl, hsd, ha, hx, hj0⟩ := hs
    split at h
    · rename_i hdone; cases h
      refine ⟨hI.maxBpos, hI.notLe, hI.expLe, hI.tailLe, hI.fluLe, hI.ticks, hI.tickHd, hI.tickMono,
        hwf id (fun _ => rfl), hff, ?_, hI.sdHd, ?_, ?_, ?_,
        hI.sdOnce, hI.batches, hI.late⟩
      · refine sinv_holder (s := s) rfl (Or.inr hl) (Or.inr hl) hI.sd ?_
        unfold SInv; simp only [upd_same, ha, Bool.false_eq_true, if_false]
        -- `joined` was just set (closed by `simp`)
        exact ⟨hl, hsd, hdone, trivial, hx⟩
      · intro _ hn
        have : s.sdLock = none := hn
        rw [hl] at this; cases this
      · intro hf
        have : s.isShutdown = false := hf
        rw [hsd] at this; cases this
      · intro hr
        obtain ⟨a', b, c, d⟩ := hI.retd hr
        exact ⟨a', b, rfl, d⟩
    · cases h
  | expB =>
    rw [hpc] at h hs; cases h
    obtain ⟨hl, hsd, hd, hj1, hx⟩ := hs
    have hnr : s.sdReturned = false := by
      cases hh : s.sdReturned with
      | false => rfl
      | true => have := (hI.retd hh).2.1; omega
    refine ⟨hI.maxBpos, hI.notLe, hI.expLe, hI.tailLe, hI.fluLe, hI.ticks, hI.tickHd, hI.tickMono,
      hwf id (fun _ => rfl), hff, ?_, hI.sdHd, ?_, ?_, ?_,
      by show s.expShutdowns + 1 ≤ 1; omega, hI.batches, ?_⟩
    · refine sinv_holder (s := s) rfl (Or.inr hl) (Or.inr hl) hI.sd ?_
      unfold SInv; simp only [upd_same]
      exact ⟨hl, hsd, hd, hj1, by show s.expShutdowns + 1 = 1; omega⟩
    · intro _ hn
      have : s.sdLock = none := hn
      rw [hl] at this; cases this
    · intro hf
      have : s.isShutdown = false := hf
      rw [hsd] at this; cases this
    · intro hr
      have : s.sdReturned = true := hr
      rw [hnr] at this; cases this
    · show late s = 0
      unfold late; simp [hnr, hI.late]
  | expE =>
    rw [hpc] at h hs; cases h
    obtain ⟨hl, rest⟩ := hs
    refine ⟨hI.maxBpos, hI.notLe, hI.expLe, hI.tailLe, hI.fluLe, hI.ticks, hI.tickHd, hI.tickMono,
      hwf id (fun _ => rfl), hff, ?_, hI.sdHd, hI.free, hI.notSd,
      hI.retd, hI.sdOnce, hI.batches, hI.late⟩
    refine sinv_holder (s := s) rfl (Or.inr hl) (Or.inr hl) hI.sd ?_
    unfold SInv; simp only [upd_same]; exact ⟨hl, rest⟩
  | unlockP =>
    -- release `shutdown_m`; the call returns
    rw [hpc] at h hs; cases h
    obtain ⟨hl, hsd, hd, hj1, hx⟩ := hs
    refine ⟨hI.maxBpos, hI.notLe, hI.expLe, hI.tailLe, hI.fluLe, hI.ticks, hI.tickHd, hI.tickMono,
      hwf id (fun _ => rfl), hff, ?_, hI.sdHd, ?_, ?_, ?_,
      hI.sdOnce, hI.batches, hI.late⟩
    · refine sinv_holder (s := s) rfl (Or.inr hl) (Or.inl rfl) hI.sd ?_
      unfold SInv; simp only [upd_same]; simp
    · intro _ _; exact ⟨hx, hj1, hd⟩
    · intro hf
      have : s.isShutdown = false := hf
      rw [hsd] at this; cases this
    · intro _; exact ⟨hsd, hx, hj1, hd⟩
  | ret => rw [hpc] at h; cases h

end Otel.Batch
