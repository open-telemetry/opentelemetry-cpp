import OtelVerif.Lemmas.Batch.Shut
import OtelVerif.Lemmas.Run
import OtelVerif.Model.BatchRefine
namespace Otel.Batch

theorem inv_step (s s' : St) (a : Act) (hI : Inv s) (h : step s a = some s') : Inv s' := by
  cases a with
  | wWake => exact inv_wake s s' hI h
  | wStep => exact inv_wStep s s' hI h
  | fStep f r => exact inv_fStep s s' f r hI h
  | sStep i => exact inv_sStep s s' i hI h
  | pStep p d => exact inv_pStep s s' p d hI h

theorem run_nil {s s' : St} (h : run s [] = some s') : s' = s := by simp [run] at h; exact h.symm

theorem run_cons {s s' : St} {a : Act} {as : List Act} (h : run s (a :: as) = some s') :
    ∃ s1, step s a = some s1 ∧ run s1 as = some s' := by
  simp only [run] at h
  split at h
  · exact ⟨_, ‹_›, h⟩
  · cases h

/-- what every transition keeps still holds after a run -/
theorem run_keeps {P : St → Prop} (hstep : ∀ s s' a, P s → step s a = some s' → P s')
    {as : List Act} {s s' : St} (h0 : P s) (h : run s as = some s') : P s' :=
  Run.ind (fun _ => rfl) (fun s a as => by simp only [run]; cases step s a <;> rfl) hstep as s s' h0 h

theorem inv_run (s s' : St) (as : List Act) (hI : Inv s) (h : run s as = some s') : Inv s' :=
  run_keeps inv_step hI h

theorem reachable_inv (maxQ maxB : Nat) (hb : 1 ≤ maxB) (as : List Act) (s : St) (h : run (init maxQ maxB) as = some s) : Inv s :=
  inv_run _ _ as (inv_init maxQ maxB hb) h

def isW : Act → Bool
  | .wWake | .wStep => true
  | _ => false

/-- a transition of a thread other than the worker leaves alone the configuration and what the worker writes; it may
    issue a ticket, set `is_shutdown`, or commit a record if the queue has room -/
structure OtherFrame (s s' : St) : Prop where
  wpc        : s'.wpc = s.wpc
  notified   : s'.notified = s.notified
  tail       : s'.tail = s.tail
  exported   : s'.exported = s.exported
  inExport   : s'.inExport = s.inExport
  maxQ       : s'.maxQ = s.maxQ
  maxB       : s'.maxB = s.maxB
  pending    : s.pending ≤ s'.pending
  isShutdown : s.isShutdown = true → s'.isShutdown = true
  head       : s'.head = s.head ∨ (s'.head = s.head + 1 ∧ s.head - s.tail < s.maxQ)

theorem other_step (s s' : St) (a : Act) (ha : isW a = false) (h : step s a = some s') : OtherFrame s s' := by
  cases a with
  | wWake | wStep => cases ha
  | fStep f r =>
    -- a `ForceFlush` caller writes `fl` and, when it takes a ticket, `tickHead` and `pending` (`+ 1`)
    simp only [step, fStep] at h
    (repeat' split at h) <;> cases h <;> exact ⟨rfl, rfl, rfl, rfl, rfl, rfl, rfl, by simp, id, Or.inl rfl⟩
  | sStep i =>
    -- a `Shutdown` caller writes `sd`, `shutdown_m`, the ghosts of the shutdown, and `is_shutdown` only to set it
    simp only [step, sStep] at h
    (repeat' split at h) <;> cases h <;> exact ⟨rfl, rfl, rfl, rfl, rfl, rfl, rfl, Nat.le_refl _, by simp, Or.inl rfl⟩
  | pStep p d =>
    -- a producer writes `pr`, `begun`, `dropped`; only a commit (in `add`, not dropping) also advances `head`, and
    -- `pStep` enables it only under `head - tail < maxQ`
    simp only [step, pStep] at h
    cases hpc : s.pr p with
    | add e0 =>
      rw [hpc] at h; simp only at h
      split at h
      · split at h <;> cases h
        exact ⟨rfl, rfl, rfl, rfl, rfl, rfl, rfl, Nat.le_refl _, id, Or.inl rfl⟩
      · split at h <;> cases h
        rename_i hroom
        exact ⟨rfl, rfl, rfl, rfl, rfl, rfl, rfl, Nat.le_refl _, id, Or.inr ⟨rfl, hroom⟩⟩
    | _ =>
      rw [hpc] at h; simp only at h
      (repeat' split at h) <;> cases h <;> exact ⟨rfl, rfl, rfl, rfl, rfl, rfl, rfl, Nat.le_refl _, id, Or.inl rfl⟩

/-- a transition of the worker leaves alone the configuration and what the other threads write -/
structure WorkerFrame (s s' : St) : Prop where
  maxQ       : s'.maxQ = s.maxQ
  maxB       : s'.maxB = s.maxB
  head       : s'.head = s.head
  pending    : s'.pending = s.pending
  isShutdown : s'.isShutdown = s.isShutdown

theorem worker_step (s s' : St) (a : Act) (ha : isW a = true) (h : step s a = some s') : WorkerFrame s s' := by
  cases a with
  | wWake => simp only [step] at h; split at h <;> cases h; exact ⟨rfl, rfl, rfl, rfl, rfl⟩
  | wStep => cases wStep_trans h <;> exact ⟨rfl, rfl, rfl, rfl, rfl⟩
  | _ => cases ha

theorem cfg_step (s s' : St) (a : Act) (h : step s a = some s') : s'.maxB = s.maxB ∧ s'.maxQ = s.maxQ := by
  cases ha : isW a with
  | true => exact ⟨(worker_step s s' a ha h).maxB, (worker_step s s' a ha h).maxQ⟩
  | false => exact ⟨(other_step s s' a ha h).maxB, (other_step s s' a ha h).maxQ⟩

/-- what was consumed has been exported, except between `tail_ += n` and the return of `Export` -/
theorem Inv.exported_eq_tail {s : St} (hI : Inv s)
    (hne : ∀ r n T R num, s.wpc ≠ .exportB r n T R num ∧ s.wpc ≠ .exportE r n T R num) : s.exported = s.tail := by
  have hw := hI.w
  unfold WInv at hw
  cases hpc : s.wpc with
  | exportB r n T R num => exact absurd hpc (hne r n T R num).1
  | exportE r n T R num => exact absurd hpc (hne r n T R num).2
  | pubCas => rw [hpc] at hw; exact hw.1.1
  | _ => rw [hpc] at hw; exact hw.1

/-- once the worker has finished, everything committed before `is_shutdown` was set has been exported, and nothing
    consumed is left unexported -/
theorem Inv.at_done {s : St} (hI : Inv s) (hd : s.wpc = .done) : s.sdHead ≤ s.exported ∧ s.exported = s.tail := by
  have hw := hI.w
  unfold WInv at hw; rw [hd] at hw
  exact ⟨hw.2.2.2, hw.1⟩

theorem cfg_run (s s' : St) (as : List Act) (h : run s as = some s') : s'.maxB = s.maxB ∧ s'.maxQ = s.maxQ :=
  run_keeps (P := fun t => t.maxB = s.maxB ∧ t.maxQ = s.maxQ)
    (fun t t' a ht h' => ⟨(cfg_step t t' a h').1.trans ht.1, (cfg_step t t' a h').2.trans ht.2⟩) ⟨rfl, rfl⟩ h

/-- `s'` is reached from `s` by zero, one or two protocol steps -/
def Steps (s s' : St) : Prop := s' = s ∨ (∃ a, step s a = some s') ∨ (∃ a b s1, step s a = some s1 ∧ step s1 b = some s')

theorem steps_inv {s s' : St} (hI : Inv s) (h : Steps s s') : Inv s' := by
  rcases h with rfl | ⟨a, ha⟩ | ⟨a, b, s1, ha, hb⟩
  · exact hI
  · exact inv_step _ _ a hI ha
  · exact inv_step _ _ b (inv_step _ _ a hI ha) hb

theorem guardEq_some {c : Bool} {o : Option St} {s' : St} (h : guardEq c o = some s') : o = some s' := by
  unfold guardEq at h; split at h
  · exact h
  · cases h

/-- an event that the model takes as a stutter -/
theorem Steps.zero {s s' : St} (h : some s = some s') : Steps s s' := Or.inl (Option.some.inj h).symm

theorem Steps.one {s s' : St} {a : Act} (h : step s a = some s') : Steps s s' := Or.inr (Or.inl ⟨a, h⟩)

theorem Steps.two {s s' : St} {a b : Act} (h : (step s a).bind (fun s1 => step s1 b) = some s') : Steps s s' := by
  cases h1 : step s a with
  | none => rw [h1] at h; cases h
  | some s1 => rw [h1] at h; exact Or.inr (Or.inr ⟨a, b, s1, h1, h⟩)

/-! The refinement map only ever takes protocol steps.  One lemma per role; after `split`, one line per row of the
    role's table in `Model/BatchRefine.lean`, in the order of the table. -/

theorem aWorker_steps {s s' : St} {e : Ev} (h : aWorker s e = some s') : Steps s s' := by
  unfold aWorker at h
  split at h
  · exact .zero (guardEq_some h)            -- a load of `tail_`
  split at h
  · exact .zero h                           -- idle, `head`
  · exact .two (guardEq_some h)             -- idle, `isd`: wake up, then the load
  · exact .one (guardEq_some h)             -- ticket, `pend`
  · exact .one (guardEq_some h)             -- size, `head`
  · exact .zero h                           -- consume, `head` (peek)
  · exact .one (guardEq_some h)             -- consume, `fadd`
  · exact .one (guardEq_some h)             -- exportB, `expb`
  · exact .one h                            -- exportE, `expe`
  · exact .one (guardEq_some h)             -- nChk, `not`
  · exact .one h                            -- flushB, `xfb`
  · exact .one h                            -- flushE, `xfe`
  · exact .one (guardEq_some h)             -- pubLd, `not`
  · exact .one (guardEq_some h)             -- pubCas, `cas`
  · exact .one (guardEq_some h)             -- dEmpty, `head`
  · exact .one (guardEq_some h)             -- dPend, `pend`
  · exact .one (guardEq_some h)             -- dNot, `not`
  · exact .zero h                           -- done, `end`
  · cases h

theorem aProd_steps {s s' : St} {p : Nat} {e : Ev} (h : aProd s p e = some s') : Steps s s' := by
  unfold aProd at h
  split at h
  · exact .one h                            -- idle, `beg`
  · exact .one (guardEq_some h)             -- chk, `isd`
  · exact .one h                            -- add, `commit`
  · exact .two h                            -- add, `ret` without a commit: the drop, then the return
  · exact .one h                            -- fin, `ret`
  · exact .one h                            -- noop, `ret`
  · cases h

theorem aFlush_steps {s s' : St} {f : Nat} {e : Ev} (h : aFlush s f e = some s') : Steps s s' := by
  unfold aFlush at h
  split at h
  · exact .one h                            -- idle, `beg`
  · exact .one (guardEq_some h)             -- chk, `isd`
  · exact .one (guardEq_some h)             -- ticket, `fadd`
  · exact .zero h                           -- wait, `isd`
  · exact .zero h                           -- wait, `pend`
  · exact .one (guardEq_some h)             -- wait, `not`
  · -- wait, `ret`: one step, then a check on the result that changes nothing
    cases h1 : step s (.fStep f true) with
    | none => rw [h1] at h; cases h
    | some s1 =>
      rw [h1] at h
      simp only [Option.bind] at h
      split at h
      · cases guardEq_some h; exact .one h1
      · cases h
  · exact .zero (guardEq_some h)            -- ret, `ret`
  · cases h

theorem aShut_steps {s s' : St} {i : Nat} {e : Ev} (h : aShut s i e = some s') : Steps s s' := by
  unfold aShut at h
  split at h
  · exact .one h                            -- idle, `beg`
  · exact .one h                            -- begin, `lock`
  · exact .one (guardEq_some h)             -- locked, `xchg`
  · exact .one h                            -- joinW, `join`
  · exact .one h                            -- expB, `xsb`
  · exact .one h                            -- expE, `xse`
  · exact .one h                            -- unlockP, `unlock`
  · exact .zero h                           -- ret, `ret`
  · cases h

theorem astepCore_steps (s s' : St) (e : Ev) (h : astepCore s e = some s') : Steps s s' := by
  unfold astepCore at h
  split at h
  · exact aWorker_steps h
  · exact aProd_steps h
  · exact aFlush_steps h
  · exact aShut_steps h

theorem astep_steps (s s' : St) (e : Ev) (h : astep s e = some s') : Steps s s' := by
  unfold astep at h
  split at h
  · rename_i s1 hc
    cases h
    exact astepCore_steps s _ e hc
  · split at h
    · cases h; exact Or.inl rfl
    · cases h

/-- every state the refinement check reaches while accepting the implementation's events satisfies the invariant -/
theorem inv_astep (s s' : St) (e : Ev) (hI : Inv s) (h : astep s e = some s') : Inv s' := steps_inv hI (astep_steps s s' e h)

end Otel.Batch
