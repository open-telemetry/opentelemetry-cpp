import OtelVerif.Model.KvTokIdx
import OtelVerif.Lemmas.Idx
/-! The index-explicit `StringUtil::Trim` and `KeyValueStringTokenizer::next` of `Model/KvTokIdx.lean` never fault
    (no read outside the string, no `size_t` wrap-around) and compute the list-level `trim` / `members` / `splitKv`. -/
namespace Otel
namespace KvIdx

theorem usub_ok (a b : Nat) (h : b ≤ a) : usub a b = .ok (a - b) := by unfold usub; rw [if_pos h]

theorem trimLeft_eq_dropWhile : ∀ s : Bytes, trimLeft s = s.dropWhile isSpace
  | [] => rfl
  | c :: t => by rw [trimLeft, List.dropWhile_cons, trimLeft_eq_dropWhile t]

/-- the left loop skips the leading white space of the range `mid` -/
theorem trimL_spec (post : Bytes) (right : Nat) (mid pre : Bytes) (fuel : Nat)
    (hr : right + 1 = pre.length + mid.length) (hf : mid.length < fuel) :
    trimL (pre ++ mid ++ post) fuel pre.length right = .ok (pre.length + (mid.takeWhile isSpace).length) := by
  induction mid generalizing pre fuel with
  | nil =>
    have : ¬ pre.length ≤ right := by simp at hr; omega
    cases fuel <;> rw [trimL, if_neg this] <;> rfl
  | cons c t ih =>
    cases fuel with
    | zero => exact absurd hf (Nat.not_lt_zero _)
    | succ fuel =>
      rw [trimL, if_pos (by simp at hr; omega), List.append_assoc, List.cons_append, Idx.rd_at, IxRes.bind_ok,
        List.takeWhile_cons]
      cases hc : isSpace c
      · rfl
      · have ih := ih (pre ++ [c]) fuel (by simp at hr ⊢; omega) (by simp at hf; omega)
        simp only [List.append_assoc, List.cons_append, List.nil_append, List.length_append, List.length_singleton] at ih
        simp only [if_true, List.length_cons]
        rw [ih, Nat.add_assoc, Nat.add_comm 1]

/-- the right loop on a range whose reverse is `rm` skips the trailing white space; it never steps below the range
    because something other than white space is left in it (the left loop has run before) -/
theorem trimR_spec (pre rm post : Bytes) (fuel right : Nat) (hr : right + 1 = pre.length + rm.length)
    (hg : rm = [] ∨ ∃ y ∈ rm, isSpace y = false) (hf : rm.length < fuel) :
    ∃ r', trimR (pre ++ rm.reverse ++ post) fuel pre.length right = .ok r' ∧
      r' + 1 = pre.length + (rm.dropWhile isSpace).length := by
  induction rm generalizing post fuel right with
  | nil =>
    have : ¬ pre.length ≤ right := by simp at hr; omega
    cases fuel <;> rw [trimR, if_neg this] <;> exact ⟨right, rfl, hr⟩
  | cons x rm ih =>
    cases fuel with
    | zero => exact absurd hf (Nat.not_lt_zero _)
    | succ fuel =>
      have hs : pre ++ (x :: rm).reverse ++ post = pre ++ rm.reverse ++ x :: post := by simp
      have hrd : Idx.rd (pre ++ rm.reverse ++ x :: post) right = .ok x :=
        Idx.rd_at' _ x post right (by simp at hr ⊢; omega)
      rw [hs, trimR, if_pos (by simp at hr; omega), hrd, IxRes.bind_ok, List.dropWhile_cons]
      cases hx : isSpace x
      · exact ⟨right, rfl, by simp at hr ⊢; omega⟩
      · obtain ⟨y, hy, hys⟩ : ∃ y ∈ rm, isSpace y = false := by
          rcases hg with hg | ⟨y, hy, hys⟩
          · cases hg
          · rcases List.mem_cons.1 hy with rfl | hy
            · rw [hx] at hys; cases hys
            · exact ⟨y, hy, hys⟩
        have hpos : 0 < rm.length := List.length_pos_of_mem hy
        simp only [if_true]
        rw [usub_ok right 1 (by simp at hr; omega), IxRes.bind_ok]
        exact ih (x :: post) fuel (right - 1) (by simp at hr; omega) (Or.inr ⟨y, hy, hys⟩) (by simp at hf; omega)

/-- **`Trim(str, left, right)` never leaves the range** (no read outside `str`, `right--` never wraps, `1 + right - left`
    never wraps) and returns the range `mid` with its leading and trailing white space removed -/
theorem trim3_spec (pre mid post : Bytes) (right : Nat) (hr : right + 1 = pre.length + mid.length) :
    trim3 (pre ++ mid ++ post) pre.length right = .ok (trim mid) := by
  have hmid : mid.takeWhile isSpace ++ mid.dropWhile isSpace = mid := List.takeWhile_append_dropWhile
  -- the reversed rest `rm` of the range behind the leading white space `sp`, and its own leading white space
  generalize hsp : mid.takeWhile isSpace = sp at hmid
  generalize hrm : (mid.dropWhile isSpace).reverse = rm
  have hcore : trim mid = (rm.dropWhile isSpace).reverse := by
    rw [← hrm, ← trimLeft_eq_dropWhile, ← trimLeft_eq_dropWhile]; rfl
  have hrev : rm.reverse = trim mid ++ (rm.takeWhile isSpace).reverse := by
    rw [hcore, ← List.reverse_append, List.takeWhile_append_dropWhile]
  have hs : pre ++ mid ++ post = (pre ++ sp) ++ rm.reverse ++ post := by
    rw [← hrm, List.reverse_reverse, List.append_assoc pre sp, hmid]
  have hlen : mid.length = sp.length + rm.length := by
    rw [← hmid, ← hrm, List.length_append, List.length_reverse]
  have hg : rm = [] ∨ ∃ y ∈ rm, isSpace y = false := by
    by_cases hm : mid.dropWhile isSpace = []
    · left; rw [← hrm, hm]; rfl
    · right
      exact ⟨_, by rw [← hrm]; exact List.mem_reverse.2 (List.head_mem hm), List.head_dropWhile_not isSpace hm⟩
  unfold trim3
  rw [trimL_spec post right mid pre _ hr (by simp; omega), IxRes.bind_ok, hsp, ← List.length_append, hs]
  obtain ⟨r', hr1, hr2⟩ := trimR_spec (pre ++ sp) rm post ((pre ++ sp ++ rm.reverse ++ post).length + 1) right
    (by simp; omega) hg (by simp; omega)
  have hn : 1 + r' - (pre ++ sp).length = (trim mid).length := by rw [hcore, List.length_reverse]; omega
  rw [hr1, IxRes.bind_ok, usub_ok _ _ (by omega), IxRes.bind_ok, hn, hrev, ← List.append_assoc _ (trim mid),
    List.append_assoc _ _ post]
  exact Idx.substr_mid (pre ++ sp) (trim mid) _

theorem trim1_spec (s : Bytes) : trim1 s = .ok (trim s) := by
  unfold trim1
  cases s with
  | nil => rfl
  | cons c t =>
    simp only [List.isEmpty_cons, Bool.false_eq_true, if_false]
    rw [usub_ok _ _ (by simp), IxRes.bind_ok]
    have := trim3_spec [] (c :: t) [] ((c :: t).length - 1) (by simp)
    simpa using this

theorem findIn_takeTok (ch : UInt8) : ∀ r : Bytes, findIn ch r = (takeTok ch r).2.map fun _ => (takeTok ch r).1.length
  | [] => rfl
  | c :: t => by
    simp only [findIn, takeTok]
    by_cases hc : c = ch
    · simp [hc]
    · simp only [hc, if_false]
      rw [findIn_takeTok ch t]
      cases (takeTok ch t).2 <;> simp

theorem find_at (pre rest : Bytes) (ch : UInt8) (h : rest ≠ []) :
    find (pre ++ rest) ch pre.length = (takeTok ch rest).2.map fun _ => pre.length + (takeTok ch rest).1.length := by
  unfold find
  have hlt : pre.length < (pre ++ rest).length := by
    cases rest with
    | nil => exact absurd rfl h
    | cons _ _ => simp
  rw [if_pos hlt, List.drop_left, findIn_takeTok]
  cases (takeTok ch rest).2 <;> simp [Nat.add_comm]

/-- `find('=')` / two `substr`s split a member exactly like `splitKv`, without leaving it -/
theorem splitMember_spec (m : Bytes) (kvsep : UInt8) : splitMember m kvsep = .ok (splitKv kvsep m) := by
  unfold splitMember splitKv
  cases m with
  | nil => simp [find, takeTok]
  | cons c t =>
    have hf := find_at [] (c :: t) kvsep (by simp)
    simp only [List.nil_append, List.length_nil, Nat.zero_add] at hf
    rw [hf]
    cases htk : takeTok kvsep (c :: t) with
    | mk k o =>
      cases o with
      | none => rfl
      | some v =>
        have e := (takeTok_some htk).1
        simp only [Option.map_some]
        have h1 : Idx.substr (c :: t) 0 k.length = .ok k := by
          rw [e]
          have := Idx.substr_mid [] k (kvsep :: v)
          simpa using this
        have h2 : Idx.substrFrom (c :: t) (k.length + 1) = .ok v := by
          rw [e]
          have := Idx.substrFrom_end (k ++ [kvsep]) v
          simpa using this
        rw [h1, IxRes.bind_ok, h2, IxRes.bind_ok]

theorem kvMembers_nil (sep : UInt8) (fuel : Nat) : kvMembers sep fuel [] = [] := by cases fuel <;> rfl

theorem kvMembers_succ {sep : UInt8} {rest tok : Bytes} {o : Option Bytes} (fuel : Nat) (hne : rest ≠ [])
    (h : takeTok sep rest = (tok, o)) :
    kvMembers sep (fuel + 1) rest =
      if (trim tok).isEmpty then kvMembers sep fuel (o.getD []) else trim tok :: kvMembers sep fuel (o.getD []) := by
  obtain ⟨c, t, rfl⟩ := List.exists_cons_of_ne_nil hne
  simp only [kvMembers, h]
  cases o with
  | none => simp only [Option.getD_none, kvMembers_nil]
  | some r => rfl

/-- the member that starts at `index` ends at its last byte; an empty one "ends" at the separator itself and is flagged -/
theorem endOf_at (pre rest : Bytes) (msep : UInt8) (h : rest ≠ []) :
    endOf (pre ++ rest) msep pre.length = .ok (if (takeTok msep rest).1 = [] then (pre.length, true)
      else (pre.length + (takeTok msep rest).1.length - 1, false)) := by
  unfold endOf
  rw [find_at pre rest msep h]
  cases htk : takeTok msep rest with
  | mk tok o =>
    cases o with
    | none =>
      obtain rfl := (takeTok_none htk).1
      have hlen := List.length_pos_iff.2 h
      simp only [Option.map_none]
      rw [if_neg h, List.length_append, usub_ok _ 1 (by omega)]
      rfl
    | some r =>
      simp only [Option.map_some]
      by_cases htok : tok = []
      · rw [if_pos htok, htok, List.length_nil, Nat.add_zero, if_pos rfl]
      · have hlen := List.length_pos_iff.2 htok
        rw [if_neg htok, if_neg (by omega), usub_ok _ 1 (by omega)]
        rfl

/-- **the tokenizer never reads outside the header** and reports, member by member, exactly the trimmed non-empty
    list members split at their first key/value separator: started at `index`, those of the suffix `s.drop index` -/
theorem tokLoop_spec (s : Bytes) (msep kvsep : UInt8) : ∀ (fuel index : Nat), s.length ≤ index + fuel →
    tokLoop s msep kvsep fuel index = .ok ((kvMembers msep fuel (s.drop index)).map (splitKv kvsep)) := by
  intro fuel
  induction fuel with
  | zero => intro index hf; rw [tokLoop, if_neg (by omega)]; rfl
  | succ f ih =>
    intro index hf
    cases hd : s.drop index with
    | nil => rw [tokLoop, if_neg (Nat.not_lt.2 (List.drop_eq_nil_iff.1 hd))]; rfl
    | cons c t =>
      have hlt : index < s.length := Nat.lt_of_not_le fun h => by rw [List.drop_eq_nil_iff.2 h] at hd; cases hd
      have hs : s = s.take index ++ c :: t := by rw [← hd, List.take_append_drop]
      have hpl : (s.take index).length = index := List.length_take_of_le (Nat.le_of_lt hlt)
      generalize s.take index = pre at hs hpl
      subst hpl
      have hend := endOf_at pre (c :: t) msep (List.cons_ne_nil c t)
      rw [← hs] at hend
      cases htk : takeTok msep (c :: t) with
      | mk tok o =>
        rw [htk] at hend
        -- the raw member `tok` is followed by `post`: nothing, or a separator and the rest
        obtain ⟨post, e, hpost⟩ : ∃ post, c :: t = tok ++ post ∧ post.drop 1 = o.getD [] := by
          cases o with
          | none => exact ⟨[], by rw [(takeTok_none htk).1, List.append_nil], rfl⟩
          | some r => exact ⟨_, (takeTok_some htk).1, rfl⟩
        -- either way the next round starts one byte behind the member, where `o` is what is left
        have hrec := ih (pre.length + (tok.length + 1)) (by omega)
        rw [← List.drop_drop, hd, e, ← List.drop_drop, List.drop_left, hpost] at hrec
        rw [kvMembers_succ f (List.cons_ne_nil c t) htk, tokLoop, if_pos hlt, hend, IxRes.bind_ok]
        by_cases htok : tok = []
        · -- an empty pair: the separator right at `index`; what `Trim` returns is not looked at
          subst htok
          have ht3 : trim3 s pre.length pre.length = .ok (trim [c]) := by
            rw [hs, List.append_cons]; exact trim3_spec pre [c] t pre.length rfl
          rw [if_pos rfl, ht3, IxRes.bind_ok]
          simp only [Bool.or_true, if_true]
          exact hrec
        · have hlen : 0 < tok.length := List.length_pos_iff.2 htok
          have ht3 : trim3 s pre.length (pre.length + tok.length - 1) = .ok (trim tok) := by
            rw [hs, e, ← List.append_assoc]; exact trim3_spec pre tok post _ (by omega)
          have hidx : pre.length + tok.length - 1 + 2 = pre.length + (tok.length + 1) := by omega
          rw [if_neg htok, ht3, IxRes.bind_ok, hidx, hrec]
          by_cases hm : (trim tok).isEmpty = true
          · have hl : (trim tok).length = 0 := by simpa [List.isEmpty_iff] using hm
            simp only [hl, decide_true, Bool.true_or, if_true, Bool.false_eq_true, if_false, Nat.sub_zero, hm]
            exact hrec
          · have hl : ¬ (trim tok).length = 0 := fun h0 => hm (by simpa [List.isEmpty_iff] using h0)
            simp only [hl, decide_false, Bool.or_self, Bool.false_eq_true, if_false, hm]
            rw [splitMember_spec, IxRes.bind_ok]
            rfl

/-- all results of the tokenizer on a header = the list members of `Model/KvList.lean`, each split at its first `=` -/
theorem tokens_eq (s : Bytes) (msep kvsep : UInt8) :
    tokens s msep kvsep = .ok ((members msep s).map (splitKv kvsep)) :=
  tokLoop_spec s msep kvsep s.length 0 (Nat.le_add_left _ _)

end KvIdx
end Otel
