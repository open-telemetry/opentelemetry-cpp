import OtelVerif.Lemmas.ReaderMain
/-! # Progress of the periodic reader's flush / shutdown protocol (`Model/ReaderAbs.lean`)

As `Lemmas/Batch/Live.lean` for the batch processors: a rank on the program counters of the worker and of its per-cycle
collect thread that every transition of either strictly lowers until the newest `ForceFlush` ticket is published (or
the reader is shut down), and that no other thread changes while no further ticket is issued; and a second rank, `exitRank`, for the
worker's exit after `Shutdown`, which needs no assumption about the other threads at all.  `Goal w` says of two states
what the ranks have lost when the two threads made `w` transitions in between; it composes (`Goal.trans`), so one induction
over the schedule (`run_goal`) gives both bounds. -/
namespace Otel.Reader
open Otel.Ring (upd upd_same upd_other)

/-- the worker's `expected` in the publishing CAS is the current `notified` unless its own CAS already succeeded -/
def QC (s : St) : Prop :=
  match s.wpc with
  | .pubCas n v => s.notified = v ∨ n ≤ s.notified
  | _ => True

def isW : Act → Bool
  | .wStep _ | .wWake | .cStep => true
  | _ => false

/-- transitions of the worker and of the collect thread in a schedule -/
def wcount : List Act → Nat
  | [] => 0
  | a :: as => (if isW a then 1 else 0) + wcount as

def Served (P : Nat) (s : St) : Prop := P ≤ s.notified ∨ s.shutdown = true

def cRank : CPc → Nat
  | .none => 0 | .produce => 4 | .cancelChk _ => 3 | .exportB _ => 2 | .exportE _ => 1 | .fin => 0

def rank (s : St) : Nat :=
  match s.wpc with
  | .cvwait => 12
  | .loopChk => 11
  | .start => 10
  | .spawn n => if n < s.pending then 23 else 9
  | .waitF n => (if n < s.pending then 18 else 4) + cRank s.cpc
  | .joinC n => (if n < s.pending then 17 else 3) + cRank s.cpc
  | .pubLd n => if n < s.pending then 16 else 2
  | .pubCas n v => if n < s.pending then (if s.notified = v then 15 else 14) else 1
  | .done => 0

def exitRank (s : St) : Nat :=
  match s.wpc with
  | .done => 0
  | .loopChk => 1
  | .cvwait => 2
  | .pubCas _ v => if s.notified = v then 4 else 3
  | .pubLd _ => 5
  | .joinC _ => 6 + cRank s.cpc
  | .waitF _ => 7 + cRank s.cpc
  | .spawn _ => 12
  | .start => 13

theorem not_served {P : Nat} {s : St} (h : ¬ Served P s) : s.notified < P ∧ s.shutdown = false := by
  simp only [Served, not_or] at h
  exact ⟨Nat.lt_of_not_le h.1, Bool.eq_false_iff.mpr h.2⟩

/-- what a run does to what the progress argument reads, where the worker and the collect thread make `w` of its
    transitions: unless the newest ticket gets served, `rank` drops by `w`; after `Shutdown`, `exitRank` does -/
structure Goal (w : Nat) (s s' : St) : Prop where
  pend  : s.pending ≤ s'.pending
  notif : s.notified ≤ s'.notified
  shut  : s.shutdown = true → s'.shutdown = true
  qc    : QC s'
  drop  : s'.pending = s.pending → Served s.pending s' ∨ rank s' + w ≤ rank s
  exit  : s.shutdown = true → exitRank s' + w ≤ exitRank s

theorem Goal.served {w P : Nat} {s s' : St} (g : Goal w s s') (h : Served P s) : Served P s' :=
  h.imp (Nat.le_trans · g.notif) g.shut

theorem Goal.trans {w1 w2 : Nat} {s s1 s' : St} (g1 : Goal w1 s s1) (g2 : Goal w2 s1 s') : Goal (w1 + w2) s s' where
  pend := Nat.le_trans g1.pend g2.pend
  notif := Nat.le_trans g1.notif g2.notif
  shut := fun h => g2.shut (g1.shut h)
  qc := g2.qc
  drop := fun hp => by
    have hp1 : s1.pending = s.pending := by have := g1.pend; have := g2.pend; omega
    rcases g1.drop hp1 with h1 | h1
    · exact .inl (g2.served h1)
    · rw [← hp1]; exact (g2.drop (hp.trans hp1.symm)).imp_right fun h2 => by omega
  exit := fun h => by have := g1.exit h; have := g2.exit (g1.shut h); omega

/-- a transition of the worker or the collect thread that writes nothing but program counters (the defaults): it must
    lower both ranks -/
theorem wgoal_pc {s s' : St} (h1 : ¬ Served s.pending s → rank s' < rank s) (h2 : s.shutdown = true → exitRank s' < exitRank s)
    (hQ : QC s' := by exact trivial) (hp : s'.pending = s.pending := by rfl) (hs : s'.shutdown = s.shutdown := by rfl)
    (hn : s'.notified = s.notified := by rfl) : Goal 1 s s' := by
  refine ⟨Nat.le_of_eq hp.symm, Nat.le_of_eq hn.symm, fun h => hs ▸ h, hQ, fun _ => ?_, h2⟩
  by_cases hS : Served s.pending s
  · left; unfold Served at *; rw [hn, hs]; exact hS
  · exact .inr (h1 hS)

/-- a transition of a recorder, a `ForceFlush` caller or a `Shutdown` caller: it writes nothing that the ranks or `QC` read
    but, possibly, `pending` and `shutdown` -/
theorem other_goal {s s' : St} (hQ : QC s) (hw : s'.wpc = s.wpc := by rfl) (hc : s'.cpc = s.cpc := by rfl)
    (hn : s'.notified = s.notified := by rfl) (hp : s.pending ≤ s'.pending := by exact Nat.le_refl _)
    (hs : s.shutdown = true → s'.shutdown = true := by exact id) : Goal 0 s s' :=
  ⟨hp, Nat.le_of_eq hn.symm, hs, by unfold QC at *; rw [hw, hn]; exact hQ,
    fun hp => .inr (by unfold rank; rw [hw, hc, hn, hp]; exact Nat.le_refl _),
    fun _ => by unfold exitRank; rw [hw, hc, hn]; exact Nat.le_refl _⟩

theorem wtr_goal {s s' : St} (hw : WInv s) (hQ : QC s) (h : WTr s s') : Goal 1 s s' := by
  cases h with
  | start hpc | timeout _ hpc | ready _ hpc _ =>
    exact wgoal_pc (fun _ => by simp only [rank, hpc]; split <;> omega) (fun _ => by simp only [exitRank, hpc]; omega)
  | spawn _ hpc hc | join _ hpc hc =>
    -- the collect thread is not there (`none`) or has finished (`fin`): it adds nothing to either rank
    exact wgoal_pc (fun _ => by simp only [rank, hpc, hc, cRank]; split <;> omega)
      (fun _ => by simp only [exitRank, hpc, hc, cRank]; omega)
  | load n hpc hgt =>
    exact wgoal_pc (fun _ => by simp only [rank, hpc, ↓reduceIte]; split <;> omega)
      (fun _ => by simp only [exitRank, hpc, ↓reduceIte]; omega) (hQ := Or.inl rfl)
  | skip n hpc hle =>
    -- nothing to publish: unless served already, ticket `n` is not the newest
    simp only [WInv, hpc] at hw
    exact wgoal_pc (fun hns => by have := (not_served hns).1; simp only [rank, hpc]; split <;> omega)
      (fun _ => by simp only [exitRank, hpc]; omega)
  | cas n v hpc heq =>
    -- the CAS succeeds: either `n` is the newest ticket, which is now served, or the rank drops to that of a failed CAS
    simp only [WInv, hpc] at hw
    have hne : n ≠ v := by omega
    refine ⟨Nat.le_refl _, by show s.notified ≤ n; omega, id, ?_, fun _ => ?_, fun _ => ?_⟩
    · simp only [QC, hpc]; exact Or.inr (Nat.le_refl _)
    · by_cases hst : n < s.pending
      · right; simp only [rank, hpc, hst, heq, hne, ↓reduceIte]; omega
      · left; left; show s.pending ≤ n; omega
    · simp only [exitRank, hpc, heq, hne, ↓reduceIte]; omega
  | retry n v hpc hne hgt =>
    -- cannot happen: the worker is the only writer of `notified` (`QC`)
    simp only [QC, hpc] at hQ
    omega
  | leave n v hpc hne hle =>
    simp only [WInv, hpc] at hw
    exact wgoal_pc
      (fun hns => by have := (not_served hns).1; simp only [rank, hpc, hne, ↓reduceIte]; split <;> omega)
      (fun _ => by simp only [exitRank, hpc, hne, ↓reduceIte]; omega)
  | wake hpc =>
    exact wgoal_pc (fun _ => by simp only [rank, hpc]; omega) (fun _ => by simp only [exitRank, hpc]; omega)
  | loop hpc =>
    refine wgoal_pc (fun hns => ?_) (fun hsd => ?_) (hQ := ?_)
    · simp only [rank, hpc, (not_served hns).2, Bool.false_eq_true, ↓reduceIte]; omega
    · simp only [exitRank, hpc, hsd, ↓reduceIte]; omega
    · unfold QC; simp only; cases s.shutdown <;> trivial

theorem ctr_goal {s s' : St} (hw : WInv s) (h : CTr s s') : Goal 1 s s' := by
  -- the collect thread lowers its own rank and touches nothing else the ranks or `QC` read …
  have hc : cRank s'.cpc < cRank s.cpc := by
    cases h with
    | produce hpc | cancelled _ hpc | go _ hpc | exportB _ hpc | exportE _ hpc => simp only [hpc, cRank]; omega
  obtain ⟨hpc, hp, hs, hn⟩ : s'.wpc = s.wpc ∧ s'.pending = s.pending ∧ s'.shutdown = s.shutdown ∧ s'.notified = s.notified := by
    cases h <;> exact ⟨rfl, rfl, rfl, rfl⟩
  -- … and the worker is waiting for / joining it, where both ranks count the collect thread's program counter
  obtain ⟨n, hwpc, _⟩ := h.waited hw
  rcases hwpc with e | e <;>
    exact wgoal_pc (fun _ => by simp only [rank, hpc, hp, e]; omega) (fun _ => by simp only [exitRank, hpc, e]; omega)
      (hQ := by simp only [QC, hpc, e]) (hp := hp) (hs := hs) (hn := hn)

theorem step_goal {s s' : St} {a : Act} (hw : WInv s) (hQ : QC s) (h : step s a = some s') :
    Goal (if isW a then 1 else 0) s s' := by
  cases a with
  | wStep t => exact wtr_goal hw hQ (wtr_of_wStep h)
  | wWake => exact wtr_goal hw hQ (wtr_of_wWake h)
  | cStep => exact ctr_goal hw (ctr_of_cStep h)
  | record => simp only [step] at h; cases h; exact other_goal hQ
  | fStep f c x =>
    rcases fStep_cases h with ⟨bh, _, rfl⟩ | ⟨v, _, rfl⟩
    · exact other_goal hQ (hp := Nat.le_succ _)
    · exact other_goal hQ
  | sStep i =>
    cases str_of_sStep h with
    | set => exact other_goal hQ (hs := fun _ => rfl)
    | _ => exact other_goal hQ

/-- along every run the ranks drop by the number of transitions the worker and the collect thread make in it -/
theorem run_goal {s s' : St} {as : List Act} (hI : Inv s) (hQ : QC s) (h : run s as = some s') : Goal (wcount as) s s' := by
  induction as generalizing s with
  | nil => cases h; exact other_goal hQ
  | cons a as ih =>
    rw [run_cons] at h
    obtain ⟨s1, hs1, h⟩ := Option.bind_eq_some_iff.mp h
    have g := step_goal hI.w hQ hs1
    exact g.trans (ih (inv_step s s1 a hI hs1) g.qc h)

theorem reachable_qc (as : List Act) (s : St) (h : run init as = some s) : QC s := (run_goal inv_init (by simp [QC, init]) h).qc

theorem exitRank_zero (s : St) (h0 : exitRank s = 0) : s.wpc = .done := by
  cases hpc : s.wpc with
  | done => rfl
  | pubCas n v => simp only [exitRank, hpc] at h0; split at h0 <;> omega      -- 4 or 3
  | _ => simp only [exitRank, hpc] at h0 <;> omega                            -- a positive constant, plus `cRank` at most

theorem rank_zero (s : St) (hw : WInv s) (h0 : rank s = 0) : s.shutdown = true := by
  cases hpc : s.wpc with
  | done => simp only [WInv, hpc] at hw; exact hw.2.2
  | cvwait | loopChk | start => simp only [rank, hpc] at h0 <;> omega         -- 12, 11, 10
  | _ => simp only [rank, hpc] at h0; (repeat' split at h0) <;> omega         -- every branch of the `if`s is positive

theorem served_of_wcount {s s' : St} {as : List Act} (hI : Inv s) (hQ : QC s) (h : run s as = some s')
    (hp : s'.pending = s.pending) (hr : rank s ≤ wcount as) : Served s.pending s' :=
  -- if not served on the way, the rank has reached 0
  ((run_goal hI hQ h).drop hp).elim id fun hd => Or.inr (rank_zero s' (inv_run s s' as hI h).w (by omega))

theorem done_of_wcount {s s' : St} {as : List Act} (hI : Inv s) (hQ : QC s) (hsd : s.shutdown = true) (h : run s as = some s')
    (hr : exitRank s ≤ wcount as) : s'.wpc = .done :=
  exitRank_zero s' (by have := (run_goal hI hQ h).exit hsd; omega)

theorem cRank_le (c : CPc) : cRank c ≤ 4 := by cases c <;> simp only [cRank] <;> omega

theorem rank_le (s : St) : rank s ≤ 23 := by
  have := cRank_le s.cpc
  unfold rank; (repeat' split) <;> omega

theorem exitRank_le (s : St) : exitRank s ≤ 13 := by
  have := cRank_le s.cpc
  unfold exitRank; (repeat' split) <;> omega

end Otel.Reader
