import OtelVerif.Model.TabHex
import OtelVerif.Gen.TabHex
import OtelVerif.Lemmas.Tab
/-! # The model equals the code's graph (`Gen/TabHex.lean`), third part: acceptance of the version field of `traceparent` —
    every byte in either position of the version beside `0`, every hex digit beside `f` / `F` / `1`, and the `-00` / `0` suffixes
    for the versions around `00`, `ff`, `fe`.  See `Props/TabHex.lean`. -/
namespace Otel.Tab
open Otel

theorem tab_tpVersion : ∀ p ∈ Gen.Tab.tpVersion, TabModel.tpVersion p.1 = p.2 := graph_of_chunks _ _ _ (by decide +kernel)

end Otel.Tab
