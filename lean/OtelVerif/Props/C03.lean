import OtelVerif.Lemmas.Batch.Main
import OtelVerif.Lemmas.SpinLock
import OtelVerif.Gen.Batch
/-! # C03 — Exporters are driven one call at a time and within the configured batch bounds

Batch processors: theorems about the protocol model `Model/BatchAbs.lean` (every schedule, any number of producers,
`ForceFlush` and `Shutdown` callers, every `max_queue_size`, every `1 ≤ max_export_batch_size`), which the refinement
check (`props/batchcommon.py` + `Model/BatchRefine.lean`) ties to the real processors event by event.
Simple processors: `Export` happens between `lock()` and `unlock()` of the processor's `SpinLockMutex`; the spin-lock
model of C11 is stepped against the real `SimpleSpanProcessor` / `SimpleLogRecordProcessor` (the critical section *is* the
exporter call) and its mutual-exclusion theorem is the non-re-entrancy statement. -/
namespace Otel.C03
open Otel Otel.Batch

theorem gen_batch_shape : Gen.batchSpanOneSnapshot = true ∧ Gen.batchLogOneSnapshot = true := by decide

section batch
variable {maxQ maxB : Nat} (hb : 1 ≤ maxB) {as : List Act} {s : St} (h : run (init maxQ maxB) as = some s)
include hb h

/-- **every batch ever delivered is non-empty and holds at most `max_export_batch_size` records** — at every point of
    the processor's life, whatever `ForceFlush` / `Shutdown` calls came before (D01: the as-is code took the whole queue
    once a `ForceFlush` had ever been issued; D23: without one it read the size twice) -/
theorem batch_bounds : ∀ b ∈ s.batches, 1 ≤ b ∧ b ≤ maxB := by
  have hI := reachable_inv maxQ maxB hb as s h
  have hm : s.maxB = maxB := (cfg_run _ _ as h).1
  intro b hbm
  rw [← hm]; exact hI.batches b hbm

/-- **`Export` is never re-entered**: at most one `exporter.Export` call is in flight, and it is in flight exactly
    while the worker is inside it (producers, `ForceFlush` and `Shutdown` callers never call `Export`) -/
theorem export_not_reentrant_batch : s.inExport ≤ 1 ∧ (s.inExport = 1 ↔ ∃ r n T R num, s.wpc = .exportE r n T R num) := by
  have hw := (reachable_inv maxQ maxB hb as s h).w
  unfold WInv at hw
  have out : s.inExport = 0 → (∀ r n T R num, s.wpc ≠ .exportE r n T R num) →
      s.inExport ≤ 1 ∧ (s.inExport = 1 ↔ ∃ r n T R num, s.wpc = .exportE r n T R num) :=
    fun h0 hne => ⟨by omega, fun h1 => by omega, fun ⟨r, n, T, R, num, h2⟩ => absurd h2 (hne r n T R num)⟩
  cases hpc : s.wpc with
  | exportE r n T R num =>
    rw [hpc] at hw
    exact ⟨by have := hw.2.1; omega, fun _ => ⟨_, _, _, _, _, rfl⟩, fun _ => hw.2.1⟩
  | idle | chk => rw [hpc] at hw out; exact out hw.2 nofun
  | pubCas => rw [hpc] at hw out; exact out hw.1.2.1 nofun
  | _ => rw [hpc] at hw out; exact out hw.2.1 nofun

/-- what the worker hands to the exporter is exactly what it took from the queue: outside the window between
    `tail_ += n` and the return of `Export`, `exported = tail`; inside it the batch in hand is the difference -/
theorem exports_are_consumed : s.exported ≤ s.tail ∧ s.tail ≤ s.head ∧
    ((∀ r n T R num, s.wpc ≠ .exportB r n T R num ∧ s.wpc ≠ .exportE r n T R num) → s.exported = s.tail) :=
  have hI := reachable_inv maxQ maxB hb as s h
  ⟨hI.expLe, hI.tailLe, hI.exported_eq_tail⟩

end batch

/-! ## Simple processors -/

open Otel.SpinLock in
/-- `SimpleSpanProcessor::OnEnd` / `SimpleLogRecordProcessor::OnEmit` call `exporter_->Export` while holding `lock_`
    (the harness steps the real processors against the spin-lock model with the exporter call as the critical
    section): no two threads are inside `Export` at once, for every schedule and any number of threads -/
theorem export_not_reentrant_simple (acts : List SpinLock.Act) (s : SpinLock.St)
    (h : SpinLock.run SpinLock.init acts = some s) (p q : Nat) (hp : Holds s p) (hq : Holds s q) : p = q :=
  (SpinLock.inv_run _ _ acts SpinLock.inv_init h).unique p q hp hq

/-! ## Non-vacuity -/
example : (run (init 2 1) [.pStep 0 false, .pStep 0 false, .pStep 0 false, .wWake, .wStep, .wStep, .wStep, .wStep, .wStep, .wStep]).map
    (fun s => (s.batches, s.exported, s.inExport)) = some ([1], 1, 0) := by decide

end Otel.C03
