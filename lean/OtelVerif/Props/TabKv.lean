import OtelVerif.Model.TabKv
import OtelVerif.Gen.TabKv
import OtelVerif.Lemmas.Tab
/-! # The model equals the code's graph: `StringUtil::Trim` (`string_util.h`) and `KeyValueStringTokenizer` (`kv_properties.h`)

`Gen/TabKv.lean` is produced on every check run by calling the real functions (`tools/tabulate.py`, `harness/tab/tab_api.cc`). -/
namespace Otel.Tab
open Otel

/-- the white-space predicate `Trim` really uses (C-locale `isspace` on a possibly negative `char`) is the model's `isSpace`, for all 256 bytes -/
theorem tab_trimDrops : ∀ b : UInt8, TabModel.trimDrops b = Gen.Tab.trimDrops b := forall_byte _ (by decide +kernel)
theorem tab_trimShort : ∀ p ∈ Gen.Tab.trimShort, TabModel.trimShort p.1 = p.2 := graph_of_chunks _ _ _ (by decide +kernel)
theorem tab_trim3Short : ∀ p ∈ Gen.Tab.trim3Short, TabModel.trim3Short p.1 = p.2 := graph_of_chunks _ _ _ (by decide +kernel)
/-- `a<byte>b` for all 256 bytes: exactly `,` separates members, exactly `=` separates key and value -/
theorem tab_kvTokSep : ∀ p ∈ Gen.Tab.kvTokSep, TabModel.kvTok p.1 = p.2 := graph_of_chunks _ _ _ (by decide +kernel)
theorem tab_kvTokShort : ∀ p ∈ Gen.Tab.kvTokShort, TabModel.kvTok p.1 = p.2 := graph_of_chunks _ _ _ (by decide +kernel)

end Otel.Tab
