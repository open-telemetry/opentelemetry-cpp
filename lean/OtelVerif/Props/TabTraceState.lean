import OtelVerif.Model.TabTraceState
import OtelVerif.Gen.TabTraceState
import OtelVerif.Lemmas.Tab
import OtelVerif.Props.C14
/-! # The model equals the code's graph: `TraceState::IsValidKey` / `IsValidValue` (the `std::regex` variants)

`C14.isValidKey_iff` / `isValidValue_iff` say that the model's validators decide the hand-written W3C grammar.  On one and
two bytes the grammar is a test on each byte, so the tables are swept against those tests and the regex matcher is not run. -/
namespace Otel.Tab
open Otel C14

theorem validKey_single (a : UInt8) : ValidKey [a] ↔ IsLcAlnum a := by
  constructor
  · rintro (⟨c, t, h, hc, -⟩ | ⟨c, t, c', t', h, -⟩)
    · exact (List.cons.inj h).1 ▸ hc
    · have := congrArg List.length h
      simp at this
  · exact fun ha => Or.inl ⟨a, [], rfl, ha, nofun, Nat.zero_le _⟩

theorem validKey_pair (a b : UInt8) : ValidKey [a, b] ↔ IsLcAlnum a ∧ IsKeyChar b := by
  constructor
  · rintro (⟨c, t, h, hc, ht, -⟩ | ⟨c, t, c', t', h, -⟩)
    · obtain ⟨rfl, rfl⟩ := List.cons.inj h
      exact ⟨hc, ht b (List.mem_singleton.2 rfl)⟩
    · -- a tenant key has at least three characters
      have := congrArg List.length h
      simp at this; omega
  · rintro ⟨ha, hb⟩
    exact Or.inl ⟨a, [b], rfl, ha, fun x hx => List.mem_singleton.1 hx ▸ hb, Nat.le_add_left 1 254⟩

theorem validValue_single (a : UInt8) : ValidValue [a] ↔ IsValChar a ∧ a ≠ 32 := by
  constructor
  · rintro ⟨t, c, h, -, -, hc, hn⟩
    obtain ⟨rfl, hac⟩ := List.append_inj' (show [] ++ [a] = t ++ [c] from h) rfl
    obtain rfl := List.singleton_inj.1 hac
    exact ⟨hc, hn⟩
  · exact fun ⟨ha, hn⟩ => ⟨[], a, rfl, nofun, Nat.zero_le _, ha, hn⟩

theorem validValue_pair (a b : UInt8) : ValidValue [a, b] ↔ IsValChar a ∧ IsValChar b ∧ b ≠ 32 := by
  constructor
  · rintro ⟨t, c, h, ht, -, hc, hn⟩
    obtain ⟨rfl, hbc⟩ := List.append_inj' (show [a] ++ [b] = t ++ [c] from h) rfl
    obtain rfl := List.singleton_inj.1 hbc
    exact ⟨ht a (List.mem_singleton.2 rfl), hc, hn⟩
  · rintro ⟨ha, hb, hn⟩
    exact ⟨[a], b, rfl, fun x hx => List.mem_singleton.1 hx ▸ ha, Nat.le_add_left 1 254, hb, hn⟩

theorem tsKey1_eq (a : UInt8) : TabModel.tsKey1 a = decide (IsLcAlnum a) := by
  rw [TabModel.tsKey1, Bool.eq_iff_iff, isValidKey_iff, validKey_single, decide_eq_true_iff]
theorem tsKey2_eq (a b : UInt8) : TabModel.tsKey2 a b = decide (IsLcAlnum a ∧ IsKeyChar b) := by
  rw [TabModel.tsKey2, Bool.eq_iff_iff, isValidKey_iff, validKey_pair, decide_eq_true_iff]
theorem tsValue1_eq (a : UInt8) : TabModel.tsValue1 a = decide (IsValChar a ∧ a ≠ 32) := by
  rw [TabModel.tsValue1, Bool.eq_iff_iff, isValidValue_iff, validValue_single, decide_eq_true_iff]
theorem tsValue2_eq (a b : UInt8) : TabModel.tsValue2 a b = decide (IsValChar a ∧ IsValChar b ∧ b ≠ 32) := by
  rw [TabModel.tsValue2, Bool.eq_iff_iff, isValidValue_iff, validValue_pair, decide_eq_true_iff]

theorem tab_tsKey1 : ∀ b : UInt8, TabModel.tsKey1 b = Gen.Tab.tsKey1 b := by
  simp only [tsKey1_eq]; exact forall_byte _ (by decide +kernel)
theorem tab_tsValue1 : ∀ b : UInt8, TabModel.tsValue1 b = Gen.Tab.tsValue1 b := by
  simp only [tsValue1_eq]; exact forall_byte _ (by decide +kernel)

/-- partners for the two-byte strings: a start character, `@`, space -/
def partners : List UInt8 := [97, 64, 32]

/-- two-byte keys: every byte in either position beside each partner (6 x 256).  (All 65 536 pairs of the table are compared
    with the compiled model on every run by `tools/tabdiff.py`.) -/
theorem tab_tsKey2_cross : ∀ b : UInt8, ∀ r ∈ partners,
    TabModel.tsKey2 r b = Gen.Tab.tsKey2 r b ∧ TabModel.tsKey2 b r = Gen.Tab.tsKey2 b r := by
  simp only [tsKey2_eq]; exact forall_byte _ (by decide +kernel)
theorem tab_tsValue2_cross : ∀ b : UInt8, ∀ r ∈ partners,
    TabModel.tsValue2 r b = Gen.Tab.tsValue2 r b ∧ TabModel.tsValue2 b r = Gen.Tab.tsValue2 b r := by
  simp only [tsValue2_eq]; exact forall_byte _ (by decide +kernel)

end Otel.Tab
