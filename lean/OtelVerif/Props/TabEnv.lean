import OtelVerif.Model.TabEnv
import OtelVerif.Gen.TabEnv
import OtelVerif.Lemmas.Tab
/-! # The model equals the code's graph: the environment readers of `env_variables.cc`

Every entry of the four tables (in the order of `harness/tab/tab_sdk.cc`) is kernel-checked; the `_head` theorems are the
first 200 entries of each.  `tools/tabdiff.py` compares the same entries with the compiled model on every run. -/
namespace Otel.Tab
open Otel

/-- all 48 case variants of `true` / `false`, the empty value, every one-byte value, near misses -/
theorem tab_envBool : ∀ p ∈ Gen.Tab.envBool, TabModel.envBool p.1 = p.2 := graph_of_chunks _ _ _ (by decide +kernel)
/-- the unit table: no unit, `ns us ms s m h`, 17 near misses (`NS`, `Ms`, `1 s`, `sec`, `min`, `d`, …), then `1<unit>` for
    every unit of length ≤ 2 over `[a-z]` -/
theorem tab_envDurUnit : ∀ p ∈ Gen.Tab.envDurUnit, TabModel.envDur p.1 = p.2 := graph_of_chunks _ _ _ (by decide +kernel)
/-- empty value, then `<b>`, `1<b>`, `<b>1` for every byte `b ≠ 0` -/
theorem tab_envDurByte : ∀ p ∈ Gen.Tab.envDurByte, TabModel.envDur p.1 = p.2 := graph_of_chunks _ _ _ (by decide +kernel)
/-- `<b>`, `1<b>` for every byte `b ≠ 0`, and boundary values -/
theorem tab_envUintByte : ∀ p ∈ Gen.Tab.envUintByte, TabModel.envUint p.1 = p.2 := graph_of_chunks _ _ _ (by decide +kernel)

theorem tab_envBool_head : ∀ p ∈ Gen.Tab.envBool.take 200, TabModel.envBool p.1 = p.2 :=
  fun p hp => tab_envBool p (List.mem_of_mem_take hp)
theorem tab_envDurUnit_head : ∀ p ∈ Gen.Tab.envDurUnit.take 200, TabModel.envDur p.1 = p.2 :=
  fun p hp => tab_envDurUnit p (List.mem_of_mem_take hp)
theorem tab_envDurByte_head : ∀ p ∈ Gen.Tab.envDurByte.take 200, TabModel.envDur p.1 = p.2 :=
  fun p hp => tab_envDurByte p (List.mem_of_mem_take hp)
theorem tab_envUintByte_head : ∀ p ∈ Gen.Tab.envUintByte.take 200, TabModel.envUint p.1 = p.2 :=
  fun p hp => tab_envUintByte p (List.mem_of_mem_take hp)

end Otel.Tab
