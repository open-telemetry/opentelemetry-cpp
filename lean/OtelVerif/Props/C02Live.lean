import OtelVerif.Lemmas.Batch.LiveShut
/-! # C02 — "…and always return": progress of the flush protocol

`Props/C02.lean` proves what is true when `ForceFlush` / `Shutdown` return and that no thread is ever stuck.  Here the
worker's progress is quantified.  `rank` (Lemmas/Batch/Live.lean) is a function of the worker's program counter that
every worker transition strictly lowers until the newest flush ticket is published, and that no transition of another
thread can raise unless it issues a further ticket.  So a `ForceFlush` caller waits for at most
`5 * max_queue_size + 24` transitions of the worker — exports of at most `max_queue_size` records that were queued when
the worker saw the ticket, plus bookkeeping — however the producers, other callers and `Shutdown` interleave.  What is
assumed (and cannot be proved about an adversarial scheduler) is only that the worker thread keeps being scheduled and
its timed wait expires: `wcount` counts its transitions.  The wake-up predicate of the waiting caller tests
`is_shutdown` first and `notified >= ticket` second (batch_span_processor.cc, `break_condition`), which is why `Served`
is the disjunction of the two. -/
namespace Otel.C02
open Otel Otel.Batch

/-- **ForceFlush is served**: from every reachable state `s`, along every continuation `post` of the schedule during
    which no further ticket is issued (`pending` unchanged), as soon as the worker has made `5 * maxQ + 24` transitions
    every ticket issued so far is published (`notified ≥ pending`) or the processor has been shut down -/
theorem flush_served_within {maxQ maxB : Nat} (hb : 1 ≤ maxB) (pre post : List Act) (s s' : St)
    (h0 : run (init maxQ maxB) pre = some s) (h1 : run s post = some s') (hp : s'.pending = s.pending)
    (hfair : 5 * maxQ + 24 ≤ wcount post) : s.pending ≤ s'.notified ∨ s'.isShutdown = true := by
  have hI := reachable_inv maxQ maxB hb pre s h0
  have hQ := reachable_qc maxQ maxB hb pre s h0
  have hq : s.maxQ = maxQ := (cfg_run _ _ pre h0).2
  have hr := (rank_bd s hI hQ).1
  exact served_of_wcount post s s' hI hQ h1 hp (by rw [hq] at hr; omega)

/-- the measure behind it, for one transition: a worker transition serves the newest ticket or strictly lowers `rank`;
    any other transition that issues no ticket leaves `rank` alone -/
theorem rank_decreases {maxQ maxB : Nat} (hb : 1 ≤ maxB) (pre : List Act) (s s' : St) (a : Act)
    (h0 : run (init maxQ maxB) pre = some s) (h : step s a = some s') (hp : s'.pending = s.pending)
    (hns : ¬ Served s.pending s) :
    (isW a = true → Served s.pending s' ∨ rank s' < rank s) ∧ (isW a = false → rank s' = rank s) := by
  have hI := reachable_inv maxQ maxB hb pre s h0
  have hQ := reachable_qc maxQ maxB hb pre s h0
  refine ⟨fun ha => (worker_goal s s' a ha hI hQ h).2.2 hns, fun ha => ?_⟩
  have o := other_step s s' a ha h
  exact rank_other s s' o.wpc o.notified o.maxQ hp

/-- once its ticket is published, a waiting `ForceFlush` caller's next look at `notified` makes it return **true** -/
theorem served_flusher_returns_true {maxQ maxB : Nat} (hb : 1 ≤ maxB) (pre : List Act) (s : St)
    (h0 : run (init maxQ maxB) pre = some s) (f bh cur : Nat) (seen : Option Nat) (hf : s.fl f = .wait bh cur seen)
    (hs : s.pending ≤ s.notified) :
    ∃ s1 s2, step s (.fStep f false) = some s1 ∧ step s1 (.fStep f true) = some s2 ∧ s2.fl f = .ret bh true := by
  have hI := reachable_inv maxQ maxB hb pre s h0
  have hfi := hI.f f
  unfold FInv at hfi; rw [hf] at hfi
  simp only at hfi
  have hc : cur ≤ s.notified := by omega
  let s1 : St := { s with fl := Ring.upd s.fl f (.wait bh cur (some s.notified)) }
  have e1 : step s (.fStep f false) = some s1 := by simp [step, fStep, hf, s1]
  have hf1 : s1.fl f = .wait bh cur (some s.notified) := by simp [s1, Ring.upd_same]
  let s2 : St := { s1 with fl := Ring.upd s1.fl f (.ret bh (decide (s.notified ≥ cur))) }
  have e2 : step s1 (.fStep f true) = some s2 := by simp [step, fStep, hf1, s2]
  refine ⟨s1, s2, e1, e2, ?_⟩
  simp [s2, Ring.upd_same, hc]

/-- a queue snapshot never exceeds `max_queue_size` in a reachable state -/
theorem queue_within_capacity {maxQ maxB : Nat} (hb : 1 ≤ maxB) (pre : List Act) (s : St)
    (h0 : run (init maxQ maxB) pre = some s) : s.head - s.tail ≤ maxQ := by
  have := (reachable_qc maxQ maxB hb pre s h0).1
  rw [(cfg_run _ _ pre h0).2] at this; exact this

/-- **Shutdown's join returns**: from every reachable state in which `is_shutdown` is set, along every continuation
    whatsoever, the worker has reached the end of `DoBackgroundWork` once it has made
    `32 * (maxQ + unpublished tickets) + 32` transitions, plus at most 64 for each record that a producer still commits
    and each ticket that a `ForceFlush` caller still issues after `is_shutdown` (there are finitely many of either: each
    thread passes the `is_shutdown` test at most once more); the queue is then empty and everything is exported
    (`shutdown_drains`), and the `join()` of the `Shutdown` caller is enabled -/
theorem worker_terminates {maxQ maxB : Nat} (hb : 1 ≤ maxB) (pre post : List Act) (s s' : St)
    (h0 : run (init maxQ maxB) pre = some s) (hsd : s.isShutdown = true) (h1 : run s post = some s')
    (hfair : 32 * (maxQ + (s.pending - s.notified)) + 32 + 64 * ((s'.head - s.head) + (s'.pending - s.pending)) ≤ wcount post) :
    s'.wpc = .done := by
  have hI := reachable_inv maxQ maxB hb pre s h0
  have hQ := reachable_qc maxQ maxB hb pre s h0
  have hq : s.maxQ = maxQ := (cfg_run _ _ pre h0).2
  have hr := rank2_le s hQ
  exact done_of_wcount_noisy post s s' hI hQ hsd h1 (by rw [hq] at hr; omega)

/-- … in particular along every continuation during which the environment is quiet (no producer that had already
    passed the `is_shutdown` test commits a record, no `ForceFlush` caller that had passed it issues a ticket: `head` and
    `pending` unchanged) after `32 * (maxQ + unpublished tickets) + 32` transitions of the worker -/
theorem worker_terminates_within {maxQ maxB : Nat} (hb : 1 ≤ maxB) (pre post : List Act) (s s' : St)
    (h0 : run (init maxQ maxB) pre = some s) (hsd : s.isShutdown = true) (h1 : run s post = some s')
    (hh : s'.head = s.head) (hp : s'.pending = s.pending)
    (hfair : 32 * (maxQ + (s.pending - s.notified)) + 32 ≤ wcount post) : s'.wpc = .done :=
  worker_terminates hb pre post s s' h0 hsd h1 (by rw [hh, hp]; omega)

/-- the measure behind it, for one transition after `is_shutdown`: a worker transition strictly lowers `rank2`; a
    transition of any other thread that neither commits a record nor issues a ticket leaves it alone -/
theorem rank2_decreases {maxQ maxB : Nat} (hb : 1 ≤ maxB) (pre : List Act) (s s' : St) (a : Act)
    (h0 : run (init maxQ maxB) pre = some s) (hsd : s.isShutdown = true) (h : step s a = some s') :
    (isW a = true → rank2 s' < rank2 s) ∧
    (isW a = false → s'.head = s.head → s'.pending = s.pending → rank2 s' = rank2 s) := by
  have hI := reachable_inv maxQ maxB hb pre s h0
  have hQ := reachable_qc maxQ maxB hb pre s h0
  exact ⟨fun ha => worker_rank2 s s' a ha hI hQ hsd h, fun ha => (other_rank2 s s' a ha hI h).2⟩

/-- … and once the worker has finished, the `Shutdown` caller that waits in `join()` can go on -/
theorem join_enabled_when_done (s : St) (i : Nat) (a : Bool) (hj : s.sd i = .joinW a) (hd : s.wpc = .done) :
    (step s (.sStep i)).isSome = true := by
  simp [step, sStep, hj, hd]

/-! ## Non-vacuity: a schedule that meets the hypotheses (one queued record, one ticket, then 36 worker transitions) -/
def demoPre : List Act :=
  [.pStep 0 false, .pStep 0 false, .pStep 0 false,          -- one record committed
   .fStep 0 false, .fStep 0 false, .fStep 0 false]          -- ForceFlush: begin, is_shutdown false, ticket 1
def demoRound1 : List Act :=
  [.wWake, .wStep, .wStep, .wStep, .wStep, .wStep, .wStep,  -- chk, ticket, size, consume, exportB, exportE
   .wStep, .wStep, .wStep, .wStep, .wStep, .wStep,          -- nChk, flushB, flushE, pubLd, pubCas (publishes), pubCas (leaves)
   .wStep, .wStep, .wStep]                                  -- ticket, size (queue empty), nChk -> idle
def demoIdleRound : List Act := [.wWake, .wStep, .wStep, .wStep, .wStep]   -- chk, ticket, size, nChk -> idle
def demoPost : List Act := demoRound1 ++ demoIdleRound ++ demoIdleRound ++ demoIdleRound ++ demoIdleRound

example : (run (init 1 1) demoPre).map (fun s => (s.pending, s.notified, s.head)) = some (1, 0, 1) := by decide
example : ((run (init 1 1) demoPre).bind (fun s => run s demoPost)).map (fun s => (s.pending, s.notified, s.exported)) =
    some (1, 1, 1) := by decide
example : 5 * 1 + 24 ≤ wcount demoPost := by decide


/-- shutdown: one queued record, `Shutdown` sets the flag, the worker drains and finishes (rank2 of the start is 37) -/
def demoShutPre : List Act :=
  [.pStep 0 false, .pStep 0 false, .pStep 0 false,          -- one record committed
   .sStep 0, .sStep 0, .sStep 0]                            -- Shutdown: begin, lock, is_shutdown := true (then waits in join)
def demoShutPost : List Act :=
  [.wWake, .wStep, .wStep, .wStep,                          -- chk -> dEmpty -> (queue not empty) ticket -> size
   .wStep, .wStep, .wStep, .wStep, .wStep,                  -- consume, exportB, exportE, nChk (R = 0), back to ticket
   .wStep, .wStep, .wStep,                                  -- size (empty), nChk, dEmpty
   .wStep, .wStep, .wStep]                                  -- dPend, dNot, done
example : (run (init 1 1) demoShutPre).map (fun s => (s.isShutdown, s.head, s.pending, rank2 s)) = some (true, 1, 0, 37) := by decide
example : ((run (init 1 1) demoShutPre).bind (fun s => run s demoShutPost)).map (fun s => (s.wpc, s.head, s.pending, s.exported)) =
    some (.done, 1, 0, 1) := by decide

end Otel.C02
