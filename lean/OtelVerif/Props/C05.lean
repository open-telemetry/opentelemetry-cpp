import Mathlib.Data.List.Nodup
import Mathlib.Data.List.Range
import OtelVerif.Model.Tracer
/-! # C05 — New spans get correct identity, parentage, flags and trace state

Property theorems about `Model/Tracer.lean` (which mirrors `Tracer::StartSpan` of `sdk/src/trace/tracer.cc`, the
`Span` constructor's `SetIdentity`, `trace/context.h`, `trace/scope.h`, `Tracer::GetCurrentSpan`).  The flag constants
and the mask applied by `StartSpan` come from `Gen/Tracer.lean`, re-extracted from the source on every run.

Everything is for **every** sampler (built-in, parent-based, or an arbitrary user function `custom f`), every id
generator (a pair of streams `spanIdOf`, `traceIdOf`), every active context and every operation sequence.
"Fresh non-zero ids" is relative to the explicit hypothesis that the ids the generator returned during the run are
non-zero and pairwise distinct (`GoodGen`): the random generator itself is not modelled. -/
namespace Otel.C05
open Otel Otel.Sampler Otel.Tracer

def validOrNone (c : SpanContext) : Option SpanContext := if c.isValid then some c else none

/-- **The precedence of the property text**, written independently of the code path: a valid explicit `SpanContext`;
    else — when a `Context` is given — the valid span stored in it; the root marker of such a `Context` (without a valid
    span) means "no parent"; in every remaining case the span active on the calling thread, if valid. -/
def specParent (active : SpanContext) : ParentOpt → Option SpanContext
  | .spanContext sc => if sc.isValid then some sc else validOrNone active
  | .context c =>
    match c.span with
    | some s => if s.isValid then some s else if c.isRoot then none else validOrNone active
    | none => if c.isRoot then none else validOrNone active

theorem invalid_not_valid : SpanContext.invalid.isValid = false := by decide

/-- the code's parent resolution implements the specified precedence -/
theorem resolveParent_eq_spec (active : SpanContext) (p : ParentOpt) :
    validOrNone (resolveParent active p) = specParent active p := by
  cases p with
  | spanContext sc =>
    unfold resolveParent specParent
    by_cases h : sc.isValid = true
    · simp [h, validOrNone]
    · simp [h]
  | context c =>
    obtain ⟨sp, root⟩ := c
    cases sp with
    | none => cases root <;> simp [resolveParent, specParent, Ctx.spanContext, validOrNone, invalid_not_valid]
    | some s =>
      by_cases h : s.isValid = true <;> cases root <;>
        simp [resolveParent, specParent, Ctx.spanContext, validOrNone, invalid_not_valid, h]

/-- **Parent precedence**, clause by clause, whatever span is active on the thread:
    1. a valid explicit `SpanContext` is the parent;
    2. a valid span in an explicit `Context` is the parent (also when that context carries the root marker);
    3. an explicit `Context` without a valid span but with the root marker: no parent at all;
    4. an invalid explicit `SpanContext` (the default of `StartSpanOptions`) falls back to the active span;
    5. an explicit `Context` without a valid span and without root marker falls back to the active span. -/
theorem parent_precedence (active : SpanContext) :
    (∀ sc, sc.isValid = true → resolveParent active (.spanContext sc) = sc) ∧
    (∀ c s, c.span = some s → s.isValid = true → resolveParent active (.context c) = s) ∧
    (∀ c, c.spanContext.isValid = false → c.isRoot = true → (resolveParent active (.context c)).isValid = false) ∧
    (∀ sc, sc.isValid = false → resolveParent active (.spanContext sc) = active) ∧
    (∀ c, c.spanContext.isValid = false → c.isRoot = false → resolveParent active (.context c) = active) := by
  refine ⟨?_, ?_, ?_, ?_, ?_⟩
  · intro sc h; simp [resolveParent, h]
  · intro c s hs h; simp [resolveParent, Ctx.spanContext, hs, h]
  · intro c h hr; simp [resolveParent, h, hr, invalid_not_valid]
  · intro sc h; simp [resolveParent, h]
  · intro c h hr; simp [resolveParent, h, hr]

section start
variable (fixed : Bool) (cfg : Config) (g : GenState) (active : SpanContext) (p : ParentOpt) (sa : StartArgs)

theorem started_ghosts :
    let r := startSpanV fixed cfg g active p sa
    r.1.parent = resolveParent active p ∧
    r.1.result = shouldSample cfg.sampler ⟨resolveParent active p, r.1.ctx.traceId, sa.name, sa.kind, sa.attributes, sa.links⟩ := by
  simp [startSpanV]

/-- **A span with a valid parent** has the parent's trace id, records the parent's span id as its parent, takes the
    generator's next span id, and draws no trace id. -/
theorem child_identity (h : (resolveParent active p).isValid = true) :
    let r := startSpanV fixed cfg g active p sa
    r.1.ctx.traceId = (resolveParent active p).traceId ∧
    r.1.parentSpanId = (resolveParent active p).spanId ∧
    r.1.ctx.spanId = cfg.spanIdOf g.spanCalls ∧
    r.2 = ⟨g.spanCalls + 1, g.traceCalls⟩ := by
  simp [startSpanV, h]

/-- **A span without a valid parent** starts a new trace: the generator's next trace id, its next span id, and the
    all-zero parent span id ("no parent"). -/
theorem root_identity (h : (resolveParent active p).isValid = false) :
    let r := startSpanV fixed cfg g active p sa
    r.1.ctx.traceId = cfg.traceIdOf g.traceCalls ∧
    r.1.ctx.spanId = cfg.spanIdOf g.spanCalls ∧
    r.1.parentSpanId = zeroSpanId ∧
    r.2 = ⟨g.spanCalls + 1, g.traceCalls + 1⟩ := by
  simp [startSpanV, h]

/-- **The root marker forces a new trace** even while a valid span is active on the thread — provided the marked
    `Context` does not itself carry a valid span (hypothesis spelled out; see the witness below). -/
theorem root_marker_forces_new_trace (c : Ctx) (hr : c.isRoot = true) (hs : c.spanContext.isValid = false) :
    let r := startSpanV fixed cfg g active (.context c) sa
    r.1.ctx.traceId = cfg.traceIdOf g.traceCalls ∧ r.1.parentSpanId = zeroSpanId ∧ r.1.parent.isValid = false := by
  have h : (resolveParent active (.context c)).isValid = false := (parent_precedence active).2.2.1 c hs hr
  have hr := root_identity fixed cfg g active (.context c) sa h
  exact ⟨hr.1, hr.2.2.1, h⟩

/-- a `Context` that carries **both** a valid span and the root marker yields a child of that span (the order
    documented in `span_startoptions.h`: "1. If the Context contains a Span object, this Span is treated as the
    parent. 2. If the Context contains the boolean flag is_root_span …") -/
theorem root_marker_with_valid_span_witness :
    ∃ (c : Ctx) (active : SpanContext), c.isRoot = true ∧ (resolveParent active (.context c)).isValid = true :=
  ⟨⟨some ⟨[1,0,0,0,0,0,0,0,0,0,0,0,0,0,0,0], [1,0,0,0,0,0,0,0], 0, false, []⟩, true⟩, SpanContext.invalid, by decide⟩

theorem new_context_not_remote : (startSpanV fixed cfg g active p sa).1.ctx.remote = false := by
  simp [startSpanV]

end start

theorem gen_constants : Gen.tracerIsSampled = 1 ∧ Gen.tracerIsRandom = 2 ∧ Gen.tracerFlagMask = 1 := by decide

theorem or_and_self (x y : UInt8) : (x ||| y) &&& y = y :=
  UInt8.toBitVec_inj.1 (by ext i; simpa using Or.inr)

/-- `flagsOf` with the constants of the source put in: whatever byte `f0` the flags start from, the decision is written
    into bit 0 and the mask keeps only that bit -/
theorem flagsOf_eq (fixed pv : Bool) (pf : UInt8) (gr sampled : Bool) :
    ∃ f0 : UInt8, flagsOf fixed pv pf gr sampled =
      (if sampled then f0 ||| 1 else if fixed then f0 &&& ~~~1 else f0) &&& 1 :=
  ⟨_, by simp only [flagsOf, gen_constants]; rfl⟩

/-- **The flags byte of a new span is exactly the sampler's decision in the W3C sampled bit** — whatever the parent's
    flags byte, the generator's randomness claim, and whether there is a parent (the code after the D03 repair). -/
theorem flags_eq_spec (pv : Bool) (pf : UInt8) (gr sampled : Bool) :
    flagsOf true pv pf gr sampled = if sampled then 1 else 0 := by
  obtain ⟨f0, h⟩ := flagsOf_eq true pv pf gr sampled
  rw [h]
  cases sampled
  · show f0 &&& ~~~1 &&& 1 = 0
    rw [UInt8.and_assoc, UInt8.not_and_self, UInt8.and_zero]
  · exact or_and_self f0 1

/-- only W3C level-1 flag bits, before and after the D03 repair -/
theorem flags_w3c1 (fixed pv : Bool) (pf : UInt8) (gr sampled : Bool) :
    flagsOf fixed pv pf gr sampled &&& 0xFE = 0 := by
  obtain ⟨f0, h⟩ := flagsOf_eq fixed pv pf gr sampled
  rw [h, UInt8.and_assoc]
  exact UInt8.and_zero

section start2
variable (fixed : Bool) (cfg : Config) (g : GenState) (active : SpanContext) (p : ParentOpt) (sa : StartArgs)

/-- **The sampled flag equals the sampler's decision.** -/
theorem sampled_flag_eq_decision :
    let r := startSpan cfg g active p sa
    (r.1.ctx.flags &&& 1 = 1 ↔ r.1.result.decision = .recordAndSample) ∧
    r.1.ctx.flags = (if r.1.result.isSampled then 1 else 0) := by
  have hf : (startSpan cfg g active p sa).1.ctx.flags = (if (startSpan cfg g active p sa).1.result.isSampled then 1 else 0) := by
    simp only [startSpan, startSpanV]
    exact flags_eq_spec _ _ _ _
  refine ⟨?_, hf⟩
  rw [hf]
  unfold Result.isSampled
  cases (startSpan cfg g active p sa).1.result.decision <;> decide

/-- **Only W3C level-1 flag bits are set** (parent flag bytes `0x02 … 0xff` do not leak into the child). -/
theorem only_w3c1_flag_bits : (startSpanV fixed cfg g active p sa).1.ctx.flags &&& 0xFE = 0 := by
  simp only [startSpanV]
  exact flags_w3c1 _ _ _ _ _

/-- D03, the code before the repair: under a sampled parent a span the sampler drops still carried `sampled = 1` -/
theorem d03_asis_witness :
    let cfg : Config := ⟨.alwaysOff, true, fun n => [0,0,0,0,0,0,0,UInt8.ofNat (n + 1)], fun _ => []⟩
    let parent : SpanContext := ⟨[1,0,0,0,0,0,0,0,0,0,0,0,0,0,0,0], [2,0,0,0,0,0,0,0], 1, true, []⟩
    let r := startSpanV false cfg ⟨0, 0⟩ SpanContext.invalid (.spanContext parent) ⟨[], 0, [], []⟩
    r.1.result.decision = .drop ∧ r.1.recording = false ∧ r.1.ctx.flags = 1 := by
  decide

/-- **Trace state: the sampler's if it gave one, else the parent's** (else, for a root span, the empty default). -/
theorem tracestate_precedence :
    let r := startSpanV fixed cfg g active p sa
    (∀ t, r.1.result.traceState = some t → r.1.ctx.traceState = t) ∧
    (r.1.result.traceState = none → r.1.parent.isValid = true → r.1.ctx.traceState = r.1.parent.traceState) ∧
    (r.1.result.traceState = none → r.1.parent.isValid = false → r.1.ctx.traceState = []) := by
  simp only [startSpanV]
  generalize shouldSample cfg.sampler _ = res
  obtain ⟨d, ts⟩ := res
  cases ts with
  | none => by_cases hv : (resolveParent active p).isValid = true <;> simp [hv]
  | some t => simp

/-- a `Span` (recording) is created exactly when the sampler does not answer DROP; otherwise a `NoopSpan` -/
theorem recording_iff_decision :
    let r := startSpanV fixed cfg g active p sa
    (r.1.recording = true ↔ r.1.result.decision ≠ .drop) := by
  simp only [startSpanV, Result.isRecording]
  cases (shouldSample cfg.sampler _).decision <;> decide

/-- **A span that is not recorded still exposes a valid context** with the identity of the clauses above: same
    ids, flags and trace state as a recorded one would get — given a non-zero generated span id and, for a root span, a
    non-zero generated trace id. -/
theorem dropped_span_valid_context
    (hs : Sampler.allZero (cfg.spanIdOf g.spanCalls) = false) (ht : Sampler.allZero (cfg.traceIdOf g.traceCalls) = false) :
    let r := startSpanV fixed cfg g active p sa
    r.1.ctx.isValid = true := by
  -- the trace id is a valid parent's or the generator's next one
  have htr : Sampler.allZero (startSpanV fixed cfg g active p sa).1.ctx.traceId = false := by
    show Sampler.allZero (if (resolveParent active p).isValid then _ else _) = false
    split
    · rename_i hv
      simp only [SpanContext.isValid, Bool.and_eq_true, Bool.not_eq_true'] at hv
      exact hv.1
    · exact ht
  show (!Sampler.allZero _ && !Sampler.allZero (cfg.spanIdOf g.spanCalls)) = true
  rw [htr, hs]; rfl

end start2

theorem runV_cons {fixed : Bool} {cfg : Config} {w w' : World} {op : Op} {ops : List Op} {obs : List Obs}
    (h : runV fixed cfg w (op :: ops) = some (w', obs)) :
    ∃ w1 o obs1, stepV fixed cfg w op = some (w1, o) ∧ runV fixed cfg w1 ops = some (w', obs1) := by
  simp only [runV] at h
  split at h
  · cases h
  · rename_i w1 o hs
    obtain ⟨⟨w2, obs2⟩, hr, h2⟩ := Option.map_eq_some_iff.mp h
    cases h2
    exact ⟨w1, o, obs2, hs, hr⟩

theorem runV_induction {fixed : Bool} {cfg : Config} (P : World → Prop)
    (hstep : ∀ {w w' op o}, P w → stepV fixed cfg w op = some (w', o) → P w') :
    ∀ (ops : List Op) (w w' : World) (obs : List Obs), P w → runV fixed cfg w ops = some (w', obs) → P w' := by
  intro ops
  induction ops with
  | nil => intro w w' obs h0 h; cases h; exact h0
  | cons op ops ih =>
    intro w w' obs h0 h
    obtain ⟨w1, o, obs1, hs, hr⟩ := runV_cons h
    exact ih w1 w' obs1 (hstep h0 hs) hr

/-- the world after one well-formed operation, operation by operation -/
theorem stepV_world {fixed : Bool} {cfg : Config} {w w' : World} {op : Op} {o : Obs}
    (h : stepV fixed cfg w op = some (w', o)) :
    match op with
    | .start t p sa => ∃ po, resolveSpec w t p = some po ∧
        w' = { w with gen := (startSpanV fixed cfg w.gen (w.active t) po sa).2,
                      spans := w.spans ++ [(startSpanV fixed cfg w.gen (w.active t) po sa).1] }
    -- with Mathlib in scope `stacks` is a keyword, hence `«stacks»`
    | .withActive t k => ∃ s, w.spans[k]? = some s ∧
        w' = { w with «stacks» := setStack w.stacks t (⟨some s.ctx, (w.current t).isRoot⟩ :: w.stacks t) }
    | .endScope t => ∃ c rest, w.stacks t = c :: rest ∧ w' = { w with «stacks» := setStack w.stacks t rest }
    | .endSpan k => ∃ s, w.spans[k]? = some s ∧ (w' = w ∨ k ∉ w.ended ∧
        (s.recording = true ∧ w' = { w with ended := k :: w.ended, exported := w.exported ++ [k] } ∨
          w' = { w with ended := k :: w.ended })) := by
  cases op with
  | start t p sa =>
    obtain ⟨po, hpo, e⟩ := Option.map_eq_some_iff.mp h
    exact ⟨po, hpo, (Prod.mk.inj e).1.symm⟩
  | withActive t k =>
    obtain ⟨s, hs, e⟩ := Option.map_eq_some_iff.mp h
    exact ⟨s, hs, (Prod.mk.inj e).1.symm⟩
  | endScope t =>
    simp only [stepV] at h
    split at h
    · cases h
    · rename_i c rest hst
      exact ⟨c, rest, hst, (Prod.mk.inj (Option.some.inj h)).1.symm⟩
  | endSpan k =>
    obtain ⟨s, hs, e⟩ := Option.map_eq_some_iff.mp h
    refine ⟨s, hs, ?_⟩
    split at e
    · exact .inl (Prod.mk.inj e).1.symm
    · rename_i hne
      refine .inr ⟨by simpa using hne, ?_⟩
      split at e
      · rename_i hrec; exact .inl ⟨hrec, (Prod.mk.inj e).1.symm⟩
      · exact .inr (Prod.mk.inj e).1.symm

/-- what one operation does to the span table and the generator: nothing, or one `StartSpan` appended -/
theorem step_cases {fixed : Bool} {cfg : Config} {w w' : World} {op : Op} {o : Obs}
    (h : stepV fixed cfg w op = some (w', o)) :
    (w'.spans = w.spans ∧ w'.gen = w.gen) ∨
    (∃ t po sa, w'.spans = w.spans ++ [(startSpanV fixed cfg w.gen (w.active t) po sa).1] ∧
      w'.gen = (startSpanV fixed cfg w.gen (w.active t) po sa).2 ∧
      w'.exported = w.exported ∧ w'.ended = w.ended ∧ w'.stacks = w.stacks) := by
  have hw := stepV_world h
  cases op with
  | start t p sa => obtain ⟨po, _, rfl⟩ := hw; exact .inr ⟨t, po, sa, rfl, rfl, rfl, rfl, rfl⟩
  | withActive t k => obtain ⟨s, _, rfl⟩ := hw; exact .inl ⟨rfl, rfl⟩
  | endScope t => obtain ⟨c, rest, _, rfl⟩ := hw; exact .inl ⟨rfl, rfl⟩
  | endSpan k => obtain ⟨s, _, rfl | ⟨_, ⟨_, rfl⟩ | rfl⟩⟩ := hw <;> exact .inl ⟨rfl, rfl⟩

/-- **Anything true of every `StartSpan` result is true of every span of every program.** -/
theorem run_all_spans {fixed : Bool} {cfg : Config} (P : Started → Prop)
    (hP : ∀ g active p sa, P (startSpanV fixed cfg g active p sa).1) :
    ∀ (ops : List Op) (w w' : World) (obs : List Obs), (∀ s ∈ w.spans, P s) →
      runV fixed cfg w ops = some (w', obs) → ∀ s ∈ w'.spans, P s :=
  runV_induction (fun w => ∀ s ∈ w.spans, P s) fun h0 hs => by
    rcases step_cases hs with ⟨e, _⟩ | ⟨t, po, sa, e, _⟩ <;> rw [e]
    · exact h0
    · exact List.forall_mem_append.mpr ⟨h0, List.forall_mem_singleton.mpr (hP _ _ _ _)⟩

def isRootSpan (s : Started) : Bool := !s.parent.isValid

/-- the state invariant behind the freshness and export clauses -/
structure Inv (cfg : Config) (w : World) : Prop where
  spanIds : w.spans.map (·.ctx.spanId) = (List.range w.gen.spanCalls).map cfg.spanIdOf
  rootIds : (w.spans.filter isRootSpan).map (·.ctx.traceId) = (List.range w.gen.traceCalls).map cfg.traceIdOf
  expRec : ∀ k ∈ w.exported, ∃ s, w.spans[k]? = some s ∧ s.recording = true
  expEnded : ∀ k ∈ w.exported, k ∈ w.ended
  expNodup : w.exported.Nodup

theorem inv_init (cfg : Config) : Inv cfg World.init :=
  ⟨rfl, rfl, (by intro k h; simp [World.init] at h), (by intro k h; simp [World.init] at h), List.nodup_nil⟩

theorem getElem?_append_of_some {α} {l : List α} {k : Nat} {a : α} (x : List α) (h : l[k]? = some a) :
    (l ++ x)[k]? = some a := by
  rw [List.getElem?_append_left (List.getElem?_eq_some_iff.mp h).1]; exact h

theorem step_inv {fixed : Bool} {cfg : Config} {w w' : World} {op : Op} {o : Obs}
    (hi : Inv cfg w) (h : stepV fixed cfg w op = some (w', o)) : Inv cfg w' := by
  have hw := stepV_world h
  cases op with
  | start t p sa =>
    obtain ⟨po, _, rfl⟩ := hw
    refine ⟨?_, ?_, fun k hk => ?_, hi.expEnded, hi.expNodup⟩
    · show (w.spans ++ [_]).map _ = (List.range (w.gen.spanCalls + 1)).map _
      rw [List.map_append, hi.spanIds, List.range_succ, List.map_append]; rfl
    · show ((w.spans ++ [_]).filter isRootSpan).map _ = _
      rw [List.filter_append, List.map_append, hi.rootIds]
      -- a child draws no trace id and is filtered out; a root span draws the next one
      cases hv : (resolveParent (w.active t) po).isValid
      · simp [startSpanV, isRootSpan, hv, List.range_succ]
      · simp [startSpanV, isRootSpan, hv]
    · obtain ⟨s, hs, hr⟩ := hi.expRec k hk
      exact ⟨s, getElem?_append_of_some _ hs, hr⟩
  | withActive t k => obtain ⟨s, _, rfl⟩ := hw; exact ⟨hi.spanIds, hi.rootIds, hi.expRec, hi.expEnded, hi.expNodup⟩
  | endScope t => obtain ⟨c, rest, _, rfl⟩ := hw; exact ⟨hi.spanIds, hi.rootIds, hi.expRec, hi.expEnded, hi.expNodup⟩
  | endSpan k =>
    obtain ⟨s, hsk, rfl | ⟨hnot, ⟨hrec, rfl⟩ | rfl⟩⟩ := hw
    · exact hi
    · refine ⟨hi.spanIds, hi.rootIds, ?_, ?_, ?_⟩
      · exact List.forall_mem_append.mpr ⟨hi.expRec, List.forall_mem_singleton.mpr ⟨s, hsk, hrec⟩⟩
      · exact List.forall_mem_append.mpr
          ⟨fun k' hk' => List.mem_cons_of_mem _ (hi.expEnded k' hk'), List.forall_mem_singleton.mpr List.mem_cons_self⟩
      · -- `k` was not ended, everything exported was
        exact List.nodup_append.mpr ⟨hi.expNodup, List.nodup_singleton k,
          fun a ha b hb e => hnot (List.mem_singleton.mp hb ▸ e ▸ hi.expEnded a ha)⟩
    · exact ⟨hi.spanIds, hi.rootIds, hi.expRec, fun k' hk' => List.mem_cons_of_mem _ (hi.expEnded k' hk'), hi.expNodup⟩

theorem run_inv {fixed : Bool} {cfg : Config} :
    ∀ (ops : List Op) (w w' : World) (obs : List Obs), Inv cfg w → runV fixed cfg w ops = some (w', obs) → Inv cfg w' :=
  runV_induction (Inv cfg) step_inv

/-- **the generator hypothesis**: the ids handed out during the run are non-zero and pairwise distinct -/
structure GoodGen (cfg : Config) (g : GenState) : Prop where
  spanNonzero : ∀ n, n < g.spanCalls → Sampler.allZero (cfg.spanIdOf n) = false
  traceNonzero : ∀ n, n < g.traceCalls → Sampler.allZero (cfg.traceIdOf n) = false
  spanInj : ∀ m n, m < g.spanCalls → n < g.spanCalls → cfg.spanIdOf m = cfg.spanIdOf n → m = n
  traceInj : ∀ m n, m < g.traceCalls → n < g.traceCalls → cfg.traceIdOf m = cfg.traceIdOf n → m = n

variable {cfg : Config} {ops : List Op} {w : World} {obs : List Obs}

theorem run_init_spans (P : Started → Prop) (hP : ∀ g active p sa, P (startSpan cfg g active p sa).1)
    (h : run cfg World.init ops = some (w, obs)) : ∀ s ∈ w.spans, P s :=
  run_all_spans P hP ops World.init w obs (fun _ hs => nomatch hs) h

/-- **Span ids are the generator's successive answers, one per `StartSpan`; the trace ids of the spans without a
    valid parent are its successive trace ids, one per root span** (children draw none). -/
theorem run_spans_ids (h : run cfg World.init ops = some (w, obs)) :
    w.spans.map (·.ctx.spanId) = (List.range w.spans.length).map cfg.spanIdOf ∧
    (w.spans.filter isRootSpan).map (·.ctx.traceId) = (List.range (w.spans.filter isRootSpan).length).map cfg.traceIdOf ∧
    w.gen.spanCalls = w.spans.length ∧ w.gen.traceCalls = (w.spans.filter isRootSpan).length := by
  have hi := run_inv ops _ _ _ (inv_init cfg) h
  have h1 : w.gen.spanCalls = w.spans.length := by simpa using (congrArg List.length hi.spanIds).symm
  have h2 : w.gen.traceCalls = (w.spans.filter isRootSpan).length := by
    simpa using (congrArg List.length hi.rootIds).symm
  exact ⟨h1 ▸ hi.spanIds, h2 ▸ hi.rootIds, h1, h2⟩

theorem fresh_of_eq_range {ids : List Bytes} {n : Nat} {f : Nat → Bytes} (h : ids = (List.range n).map f)
    (hinj : ∀ a b, a < n → b < n → f a = f b → a = b) (hnz : ∀ a, a < n → Sampler.allZero (f a) = false) :
    ids.Nodup ∧ ∀ x ∈ ids, Sampler.allZero x = false := by
  subst h
  refine ⟨List.Nodup.map_on (fun a ha b hb => hinj a b (List.mem_range.mp ha) (List.mem_range.mp hb)) List.nodup_range,
    fun x hx => ?_⟩
  obtain ⟨a, ha, rfl⟩ := List.mem_map.mp hx
  exact hnz a (List.mem_range.mp ha)

/-- **Fresh non-zero span ids**: pairwise distinct over the whole program, none zero. -/
theorem run_span_ids_fresh (h : run cfg World.init ops = some (w, obs)) (hg : GoodGen cfg w.gen) :
    (w.spans.map (·.ctx.spanId)).Nodup ∧ ∀ s ∈ w.spans, Sampler.allZero s.ctx.spanId = false := by
  obtain ⟨hn, hz⟩ := fresh_of_eq_range (run_inv ops _ _ _ (inv_init cfg) h).spanIds hg.spanInj hg.spanNonzero
  exact ⟨hn, fun s hs => hz _ (List.mem_map_of_mem hs)⟩

/-- **A span without a valid parent starts a new trace with a fresh non-zero trace id.** -/
theorem run_root_trace_ids_fresh (h : run cfg World.init ops = some (w, obs)) (hg : GoodGen cfg w.gen) :
    ((w.spans.filter isRootSpan).map (·.ctx.traceId)).Nodup ∧
    ∀ s ∈ w.spans, s.parent.isValid = false → Sampler.allZero s.ctx.traceId = false ∧ s.parentSpanId = zeroSpanId := by
  obtain ⟨hn, hz⟩ := fresh_of_eq_range (run_inv ops _ _ _ (inv_init cfg) h).rootIds hg.traceInj hg.traceNonzero
  refine ⟨hn, fun s hs hv => ⟨hz _ (List.mem_map_of_mem (List.mem_filter.mpr ⟨hs, ?_⟩)), ?_⟩⟩
  · rw [isRootSpan, hv]; rfl
  · exact run_init_spans (fun s => s.parent.isValid = false → s.parentSpanId = zeroSpanId)
      (fun g active p sa hv => (root_identity true cfg g active p sa hv).2.2.1) h s hs hv

/-- **A span with a valid parent has the parent's trace id and records the parent's span id** (every span of every
    program; `parent` is the context the precedence rule resolved at its start). -/
theorem run_child_identity (h : run cfg World.init ops = some (w, obs)) :
    ∀ s ∈ w.spans, s.parent.isValid = true → s.ctx.traceId = s.parent.traceId ∧ s.parentSpanId = s.parent.spanId :=
  run_init_spans _ (fun g active p sa hv =>
    have := child_identity true cfg g active p sa hv
    ⟨this.1, this.2.1⟩) h

/-- **Sampled flag = sampler decision, only the W3C level-1 bit, never remote, trace state by precedence** — for every
    span of every program. -/
theorem run_flags_and_tracestate (h : run cfg World.init ops = some (w, obs)) :
    ∀ s ∈ w.spans,
      (s.ctx.flags &&& 1 = 1 ↔ s.result.decision = .recordAndSample) ∧ s.ctx.flags &&& 0xFE = 0 ∧ s.ctx.remote = false ∧
      (s.recording = true ↔ s.result.decision ≠ .drop) ∧
      s.ctx.traceState = (match s.result.traceState with
        | some t => t
        | none => if s.parent.isValid then s.parent.traceState else []) :=
  run_init_spans _ (fun g active p sa =>
    ⟨(sampled_flag_eq_decision cfg g active p sa).1, only_w3c1_flag_bits true cfg g active p sa,
      new_context_not_remote true cfg g active p sa, recording_iff_decision true cfg g active p sa, rfl⟩) h

/-- **Every started span — recorded or not — exposes a valid context.** -/
theorem run_contexts_valid (h : run cfg World.init ops = some (w, obs)) (hg : GoodGen cfg w.gen) :
    ∀ s ∈ w.spans, s.ctx.isValid = true := by
  intro s hs
  have h1 := (run_span_ids_fresh h hg).2 s hs
  have h2 : Sampler.allZero s.ctx.traceId = false := by
    by_cases hv : s.parent.isValid = true
    · rw [(run_child_identity h s hs hv).1]
      simp only [SpanContext.isValid, Bool.and_eq_true, Bool.not_eq_true'] at hv
      exact hv.1
    · exact ((run_root_trace_ids_fresh h hg).2 s hs (by simpa using hv)).1
  rw [SpanContext.isValid, h1, h2]; rfl

/-- everything handed to the exporter is a recorded span (the sampler did not answer DROP) -/
theorem run_exported_recording (h : run cfg World.init ops = some (w, obs)) :
    ∀ k ∈ w.exported, ∃ s, w.spans[k]? = some s ∧ s.recording = true ∧ s.result.decision ≠ .drop := by
  intro k hk
  obtain ⟨s, hs, hr⟩ := (run_inv ops _ _ _ (inv_init cfg) h).expRec k hk
  exact ⟨s, hs, hr, (run_flags_and_tracestate h s (List.mem_of_getElem? hs)).2.2.2.1.mp hr⟩

/-- **A span that is not recorded is never exported, yet still exposes a valid context for propagation.** -/
theorem dropped_span_valid_context_not_exported (h : run cfg World.init ops = some (w, obs)) (hg : GoodGen cfg w.gen)
    (k : Nat) (s : Started) (hs : w.spans[k]? = some s) (hd : s.result.decision = .drop) :
    k ∉ w.exported ∧ s.recording = false ∧ s.ctx.isValid = true ∧ s.ctx.flags = 0 := by
  have hm : s ∈ w.spans := List.mem_of_getElem? hs
  refine ⟨fun hk => ?_, ?_, run_contexts_valid h hg s hm, ?_⟩
  · obtain ⟨s', hs', _, hr'⟩ := run_exported_recording h k hk
    exact hr' (Option.some.inj (hs.symm.trans hs') ▸ hd)
  · cases hr : s.recording with
    | false => rfl
    | true => exact absurd hd ((run_flags_and_tracestate h s hm).2.2.2.1.mp hr)
  · -- the flags byte is the decision bit, and DROP is not sampled
    rw [run_init_spans (fun s => s.ctx.flags = if s.result.isSampled then 1 else 0)
      (fun g active p sa => (sampled_flag_eq_decision cfg g active p sa).2) h s hm, Result.isSampled, hd]
    rfl

theorem run_exported_nodup (h : run cfg World.init ops = some (w, obs)) : w.exported.Nodup :=
  (run_inv ops _ _ _ (inv_init cfg) h).expNodup

/-! ## a tracer disabled by the `ScopeConfigurator` (tracer.cc:57-59 -> the API `NoopTracer`) -/

/-- a disabled tracer's `StartSpan` draws no id, touches no thread's stack and nothing already started, ended or exported:
    it only appends its no-op span -/
theorem disabled_start_frame {w w' : World} {t : Nat} {p : ParentSpec} {o : Obs} (h : startDisabled w t p = some (w', o)) :
    w'.gen = w.gen ∧ w'.stacks = w.stacks ∧ w'.ended = w.ended ∧ w'.exported = w.exported ∧
    w'.spans = w.spans ++ [noopStarted] ∧ o = .started noopStarted := by
  obtain ⟨po, _, e⟩ := Option.map_eq_some_iff.mp h
  cases e
  exact ⟨rfl, rfl, rfl, rfl, rfl, rfl⟩

/-- the span of a disabled tracer is not recording, and ending it exports nothing -/
theorem disabled_span_never_exported {cfg : Config} {w w' : World} {t : Nat} {p : ParentSpec} {o : Obs}
    (h : startDisabled w t p = some (w', o)) :
    noopStarted.recording = false ∧
    ∃ w'', step cfg w' (.endSpan w.spans.length) = some (w'', .notExported) ∧ w''.exported = w.exported := by
  obtain ⟨_, _, _, hexp, hsp, _⟩ := disabled_start_frame h
  have hk : w'.spans[w.spans.length]? = some noopStarted := by rw [hsp]; simp
  refine ⟨rfl, ?_⟩
  simp only [step, stepV, hk, Option.map_some]
  -- already ended or not: a span that is not recording is not exported
  split
  · exact ⟨_, rfl, hexp⟩
  · exact ⟨_, rfl, hexp⟩

/-- as-is: the no-op span of a disabled tracer does **not** expose a valid context, whatever parent was given (the
    statement's "still exposes this valid context for propagation" holds for spans dropped by the sampler - theorem
    `dropped_span_valid_context_not_exported` - not for spans of a disabled tracer) -/
theorem disabled_span_context_invalid_witness : noopStarted.ctx.isValid = false := invalid_not_valid

/-- … so a span started by an enabled tracer under an active no-op span of a disabled tracer has no parent: with the
    active context invalid and no explicit parent, `resolveParent` answers the invalid context -/
theorem disabled_span_active_gives_root : resolveParent noopStarted.ctx (.spanContext SpanContext.invalid) = SpanContext.invalid :=
  (parent_precedence noopStarted.ctx).2.2.2.1 _ invalid_not_valid

def scopeOpOf (t : Nat) : Op → Bool
  | .withActive u _ => u == t
  | .endScope u => u == t
  | _ => false

/-- a thread's stack as a function of **its own** scope operations (and of the spans they name) -/
def applyScopes (spans : List Started) : List Ctx → List Op → List Ctx
  | st, [] => st
  | st, .withActive _ k :: ops =>
    match spans[k]? with
    | some s => applyScopes spans (⟨some s.ctx, (st.head?.getD Ctx.empty).isRoot⟩ :: st) ops
    | none => applyScopes spans st ops
  | st, .endScope _ :: ops => applyScopes spans st.tail ops
  | st, .start _ _ _ :: ops => applyScopes spans st ops
  | st, .endSpan _ :: ops => applyScopes spans st ops

theorem run_spans_prefix {fixed : Bool} {cfg : Config} {ops : List Op} {w w' : World} {obs : List Obs}
    (h : runV fixed cfg w ops = some (w', obs)) {k : Nat} {s : Started} (hk : w.spans[k]? = some s) :
    w'.spans[k]? = some s :=
  runV_induction (fun w1 => w1.spans[k]? = some s) (fun h0 hs => by
    rcases step_cases hs with ⟨e, _⟩ | ⟨_, _, _, e, _⟩ <;> rw [e]
    exacts [h0, getElem?_append_of_some _ h0]) ops w w' obs hk h

theorem stacks_general {fixed : Bool} {cfg : Config} (t : Nat) :
    ∀ (ops : List Op) (w w' : World) (obs : List Obs), runV fixed cfg w ops = some (w', obs) →
      w'.stacks t = applyScopes w'.spans (w.stacks t) (ops.filter (scopeOpOf t)) := by
  intro ops
  induction ops with
  | nil => intro w w' obs h; cases h; rfl
  | cons op ops ih =>
    intro w w' obs h
    obtain ⟨w1, o, obs1, hs, hr⟩ := runV_cons h
    rw [ih w1 w' obs1 hr]
    -- a scope operation of another thread neither passes the filter nor touches `t`'s stack
    have other : ∀ {u : Nat} (x : List Ctx), u ≠ t → setStack w.stacks u x t = w.stacks t :=
      fun x hu => if_neg (Ne.symm hu)
    have hw := stepV_world hs
    cases op with
    | start u p sa => obtain ⟨po, _, rfl⟩ := hw; rfl
    | endSpan k => obtain ⟨s, _, rfl | ⟨_, ⟨_, rfl⟩ | rfl⟩⟩ := hw <;> rfl
    | withActive u k =>
      obtain ⟨s, hsk, rfl⟩ := hw
      by_cases hu : u = t
      · subst hu
        simp only [List.filter_cons, scopeOpOf, beq_self_eq_true, if_true, applyScopes, run_spans_prefix hr hsk]
        simp [setStack, World.current]
      · simp only [List.filter_cons, scopeOpOf, beq_eq_false_iff_ne.mpr hu, Bool.false_eq_true, if_false, other _ hu]
    | endScope u =>
      obtain ⟨c, rest, hst, rfl⟩ := hw
      by_cases hu : u = t
      · subst hu
        simp only [List.filter_cons, scopeOpOf, beq_self_eq_true, if_true, applyScopes]
        simp [setStack, hst]
      · simp only [List.filter_cons, scopeOpOf, beq_eq_false_iff_ne.mpr hu, Bool.false_eq_true, if_false, other _ hu]

/-- **Each thread has its own active-span stack**: after any program, thread `t`'s stack is determined by `t`'s own
    `WithActiveSpan` / scope-exit operations alone — no `StartSpan`, `End`, or scope operation of another thread, in
    whatever interleaving, has any effect on it. -/
theorem threads_have_own_active_stack (h : run cfg World.init ops = some (w, obs)) (t : Nat) :
    w.stacks t = applyScopes w.spans [] (ops.filter (scopeOpOf t)) :=
  stacks_general t ops World.init w obs h

/-- … and `StartSpan` on thread `t` reads only `t`'s stack: worlds that agree on the generator, the span table and
    thread `t`'s stack give the same span, whatever the other threads' stacks hold. -/
theorem start_uses_own_thread_only (cfg : Config) (w₁ w₂ : World) (t : Nat) (p : ParentSpec) (sa : StartArgs)
    (hg : w₁.gen = w₂.gen) (hs : w₁.spans = w₂.spans) (ht : w₁.stacks t = w₂.stacks t) :
    (step cfg w₁ (.start t p sa)).map (·.2) = (step cfg w₂ (.start t p sa)).map (·.2) := by
  have hc : w₁.current t = w₂.current t := by unfold World.current; rw [ht]
  have ha : w₁.active t = w₂.active t := by unfold World.active; rw [hc]
  have hr : resolveSpec w₁ t p = resolveSpec w₂ t p := by
    cases p <;> simp [resolveSpec, hs, hc]
  simp only [step, stepV]
  rw [hr, ha, hg]
  cases resolveSpec w₂ t p <;> simp

/-- a program with a generator as the harness uses it (8/16-byte big-endian counters from 1): a root, made active, a child
    under it on the same thread, an unrelated root on another thread; the child is ended and exported -/
example :
    let cfg : Config := ⟨.parentBased .alwaysOn, true, fun n => [0,0,0,0,0,0,0,UInt8.ofNat (n + 1)],
      fun n => [0,0,0,0,0,0,0,0,0,0,0,0,0,0,0,UInt8.ofNat (n + 1)]⟩
    ∃ w obs, run cfg World.init [.start 0 .default ⟨[], 0, [], []⟩, .withActive 0 0, .start 0 .default ⟨[], 0, [], []⟩,
        .start 1 .default ⟨[], 0, [], []⟩, .endSpan 1] = some (w, obs) ∧
      w.spans.map (·.ctx.spanId) = [[0,0,0,0,0,0,0,1], [0,0,0,0,0,0,0,2], [0,0,0,0,0,0,0,3]] ∧
      w.spans.map (·.parentSpanId) = [zeroSpanId, [0,0,0,0,0,0,0,1], zeroSpanId] ∧ w.exported = [1] := by
  refine ⟨_, _, rfl, ?_, ?_, ?_⟩ <;> decide

/-- … and the generator hypothesis holds for it (3 span ids, 2 trace ids drawn) -/
example : GoodGen ⟨.alwaysOn, true, fun n => [0,0,0,0,0,0,0,UInt8.ofNat (n + 1)],
    fun n => [0,0,0,0,0,0,0,0,0,0,0,0,0,0,0,UInt8.ofNat (n + 1)]⟩ ⟨3, 2⟩ := by
  constructor
  · decide
  · decide
  · intro m n hm hn; revert n; revert m; decide
  · intro m n hm hn; revert n; revert m; decide

end Otel.C05
