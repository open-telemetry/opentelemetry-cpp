import OtelVerif.Model.Propagator
import OtelVerif.Lemmas.Idx
import OtelVerif.Lemmas.KvTokIdx
import OtelVerif.Props.C09
import OtelVerif.Props.C16
/-! # C15 — Baggage round-trips through its header; composite propagators apply every part

Property theorems about `Model/Baggage.lean` (mirrors `baggage/baggage.h` over `common/kv_properties.h`) and
`Model/Propagator.lean` (mirrors `composite_propagator.h`, `baggage_propagator.h`, `baggage_context.h`).  Limits,
separators, the printable range, the characters `UrlEncode` keeps and its digit table come from `Gen/Baggage.lean`,
re-extracted from the source on every run; the numbers of the property text (180, 4096, 8192) and the characters of
the W3C baggage format (`,` `=` `;` `%` `+`) are literals here. -/
namespace Otel.C15
open Otel Otel.Baggage Otel.C09

/-! ## Specification vocabulary (written from the property text / RFC 3986 percent-encoding) -/

/-- printable ASCII: `' '` … `'~'` -/
def Printable (s : Bytes) : Prop := ∀ c ∈ s, 32 ≤ c ∧ c ≤ 126

instance (s : Bytes) : Decidable (Printable s) := by unfold Printable; exact inferInstance

def Alnum (c : UInt8) : Prop := (48 ≤ c ∧ c ≤ 57) ∨ (65 ≤ c ∧ c ≤ 90) ∨ (97 ≤ c ∧ c ≤ 122)

/-- the token characters that are written as they are: ALPHA / DIGIT / `-` `_` `.` `~` -/
def Unreserved (c : UInt8) : Prop := Alnum c ∨ c = 45 ∨ c = 95 ∨ c = 46 ∨ c = 126

instance : DecidablePred Alnum := fun c => by unfold Alnum; exact inferInstance
instance : DecidablePred Unreserved := fun c => by unfold Unreserved; exact inferInstance

def upperDigit (n : Nat) : UInt8 := if n < 10 then UInt8.ofNat (48 + n) else UInt8.ofNat (55 + n)

/-- a character outside the token set is percent-encoded (`%XX`, upper case); the space is written `+` -/
def pctEncodeByte (c : UInt8) : Bytes :=
  if Unreserved c then [c] else if c = 32 then [43] else [37, upperDigit (c.toNat / 16), upperDigit (c.toNat % 16)]

def pctEncode (s : Bytes) : Bytes := s.flatMap pctEncodeByte

/-- strict decoding: `%` must be followed by two hex digits of either case, `+` is a space, every other character
    must be a token character; `none` = malformed -/
def pctDecode : Bytes → Option Bytes
  | [] => some []
  | c :: t =>
    if c = 37 then
      match t with
      | a :: b :: t' =>
        if IsHexChar a ∧ IsHexChar b then (pctDecode t').map (UInt8.ofNat (digitVal a * 16 + digitVal b) :: ·) else none
      | _ => none
    else if c = 43 then (pctDecode t).map (32 :: ·)
    else if Unreserved c then (pctDecode t).map (c :: ·)
    else none

theorem pctDecode_nil : pctDecode [] = some [] := by rw [pctDecode.eq_def]
theorem pctDecode_esc (a b : UInt8) (t : Bytes) : pctDecode (37 :: a :: b :: t) =
    if IsHexChar a ∧ IsHexChar b then (pctDecode t).map (UInt8.ofNat (digitVal a * 16 + digitVal b) :: ·) else none := by
  rw [pctDecode.eq_def]; simp
theorem pctDecode_esc1 : pctDecode [37] = none := by rw [pctDecode.eq_def]; simp
theorem pctDecode_esc2 (a : UInt8) : pctDecode [37, a] = none := by rw [pctDecode.eq_def]; simp
theorem pctDecode_plus (t : Bytes) : pctDecode (43 :: t) = (pctDecode t).map (32 :: ·) := by
  rw [pctDecode.eq_def]; simp
theorem pctDecode_other (c : UInt8) (t : Bytes) (h37 : c ≠ 37) (h43 : c ≠ 43) :
    pctDecode (c :: t) = if Unreserved c then (pctDecode t).map (c :: ·) else none := by
  rw [pctDecode.eq_def]; simp [h37, h43]

/-! ## Generated constants are the documented ones -/

theorem gen_baggage : Gen.baggageMaxPairs = 180 ∧ Gen.baggageMaxKeyValueSize = 4096 ∧ Gen.baggageMaxSize = 8192 ∧
    Gen.baggageKvSep = 61 ∧ Gen.baggageMemberSep = 44 ∧ Gen.baggageMetaSep = 59 ∧ Gen.baggagePrintLo = 32 ∧
    Gen.baggagePrintHi = 126 ∧ Gen.baggageSpace = 32 ∧ Gen.baggagePlus = 43 ∧ Gen.baggageEscape = 37 ∧
    Gen.baggageKeep = [45, 95, 46, 126] ∧ Gen.baggageKeepDecode = [45, 95, 46, 126] ∧
    Gen.baggageHex = [48, 49, 50, 51, 52, 53, 54, 55, 56, 57, 65, 66, 67, 68, 69, 70] ∧
    Gen.baggageHeader = [98, 97, 103, 103, 97, 103, 101] := by decide

theorem isAlnum_iff (c : UInt8) : isAlnum c = true ↔ Alnum c := by
  simp [isAlnum, isDigit, Alnum, or_assoc]

/-- encoder and decoder keep the same characters: the alphanumeric ones and those of a generated list -/
theorem kept_iff (c : UInt8) (keep : Bytes) (h : keep = [45, 95, 46, 126]) :
    (isAlnum c || keep.contains c) = true ↔ Unreserved c := by
  simp [h, Unreserved, isAlnum_iff]

theorem isKeptEnc_iff (c : UInt8) : isKeptEnc c = true ↔ Unreserved c := by
  obtain ⟨_, _, _, _, _, _, _, _, _, _, _, g12, _⟩ := gen_baggage
  exact kept_iff c _ g12

theorem isKeptDec_iff (c : UInt8) : isKeptDec c = true ↔ Unreserved c := by
  obtain ⟨_, _, _, _, _, _, _, _, _, _, _, _, g13, _⟩ := gen_baggage
  exact kept_iff c _ g13

theorem isHexC_iff (c : UInt8) : isHexC c = true ↔ IsHexChar c := by
  simp [isHexC, isDigit, IsHexChar, or_comm, or_assoc]

theorem fromHex_eq : ∀ c : UInt8, IsHexChar c → fromHex c = UInt8.ofNat (digitVal c) ∧ digitVal c < 16 :=
  forall_byte _ (by decide +kernel)

theorem shl_or16 (a b : UInt8) (ha : IsHexChar a) (hb : IsHexChar b) :
    (fromHex a <<< 4) ||| fromHex b = UInt8.ofNat (digitVal a * 16 + digitVal b) := by
  rw [(fromHex_eq a ha).1, (fromHex_eq b hb).1]
  exact shl_or _ (fromHex_eq a ha).2 _ (fromHex_eq b hb).2

/-- a token character is no separator, escape, NUL or white space (all of these lie outside its ranges) -/
theorem unreserved_facts (c : UInt8) (h : Unreserved c) :
    c ≠ 37 ∧ c ≠ 43 ∧ c ≠ 44 ∧ c ≠ 61 ∧ c ≠ 59 ∧ c ≠ 0 ∧ isSpace c = false := by
  simp [Unreserved, Alnum, isSpace, UInt8.le_iff_toNat_le, ← UInt8.toNat_inj] at h ⊢
  omega

theorem upperDigit_facts : ∀ n, n < 16 → Unreserved (upperDigit n) ∧ IsHexChar (upperDigit n) ∧
    digitVal (upperDigit n) = n ∧ Gen.baggageHex.getD n 0 = upperDigit n := by decide +kernel

theorem nibble_lt (c : UInt8) : c.toNat / 16 < 16 ∧ c.toNat % 16 < 16 := by
  have := c.toNat_lt; omega

/-- `to_hex(c >> 4)`, `to_hex(c & 15)`: the shift is a division by 16, the mask the remainder -/
theorem toHex_nibbles (c : UInt8) :
    toHex (c >>> 4) = upperDigit (c.toNat / 16) ∧ toHex (c &&& 15) = upperDigit (c.toNat % 16) := by
  have mask (x : Nat) : x &&& 15 = x % 16 := Nat.and_two_pow_sub_one_eq_mod x 4
  have hi : ((c >>> 4) &&& 15).toNat = c.toNat / 16 := by
    have := (nibble_lt c).1; simp [mask, Nat.shiftRight_eq_div_pow]; omega
  have lo : ((c &&& 15) &&& 15).toNat = c.toNat % 16 := by simp [mask]
  unfold toHex
  rw [hi, lo]
  exact ⟨(upperDigit_facts _ (nibble_lt c).1).2.2.2, (upperDigit_facts _ (nibble_lt c).2).2.2.2⟩

/-- `UrlEncode` of one character is RFC 3986 percent-encoding with `+` for the space — **for every byte** -/
theorem urlEncodeByte_spec : ∀ c : UInt8, urlEncodeByte c = pctEncodeByte c := by
  intro c
  obtain ⟨_, _, _, _, _, _, _, _, g9, g10, g11, _⟩ := gen_baggage
  unfold urlEncodeByte pctEncodeByte
  rw [g9, g10, g11, (toHex_nibbles c).1, (toHex_nibbles c).2]
  by_cases hu : Unreserved c
  · rw [if_pos ((isKeptEnc_iff c).2 hu), if_pos hu]
  · rw [if_neg (mt (isKeptEnc_iff c).1 hu), if_neg hu]
    simp only [beq_iff_eq]

theorem pctEncodeByte_clean (c x : UInt8) (hx : x ∈ pctEncodeByte c) :
    x ≠ 44 ∧ x ≠ 61 ∧ x ≠ 59 ∧ x ≠ 0 ∧ isSpace x = false := by
  -- what is written is a token character, `+`, or `%` and two upper-case digits
  have hu : Unreserved x ∨ x = 43 ∨ x = 37 := by
    unfold pctEncodeByte at hx
    split at hx
    · rw [List.mem_singleton.1 hx]; exact Or.inl ‹_›
    · split at hx
      · exact Or.inr (Or.inl (List.mem_singleton.1 hx))
      · simp only [List.mem_cons, List.not_mem_nil, or_false] at hx
        rcases hx with rfl | rfl | rfl
        · exact Or.inr (Or.inr rfl)
        · exact Or.inl (upperDigit_facts _ (nibble_lt c).1).1
        · exact Or.inl (upperDigit_facts _ (nibble_lt c).2).1
  rcases hu with h | rfl | rfl
  · exact (unreserved_facts x h).2.2
  · decide
  · decide

theorem rd_of_drop {s : Bytes} {i : Nat} {c : UInt8} {t : Bytes} (h : s.drop i = c :: t) :
    i < s.length ∧ Idx.rd s i = .ok c ∧ s.drop (i + 1) = t := by
  have hlt : i < s.length := by
    apply Nat.lt_of_not_le; intro hle; rw [List.drop_eq_nil_iff.2 hle] at h; cases h
  rw [List.drop_eq_getElem_cons hlt] at h
  injection h with h1 h2
  refine ⟨hlt, ?_, h2⟩
  unfold Idx.rd
  rw [List.getElem?_eq_getElem hlt, h1]

theorem isHexC_eq (c : UInt8) : isHexC c = decide (IsHexChar c) := by
  rw [Bool.eq_iff_iff, isHexC_iff, decide_eq_true_iff]

theorem map_snoc (acc : Bytes) (c : UInt8) (o : Option Bytes) :
    o.map ((acc ++ [c]) ++ ·) = (o.map (c :: ·)).map (acc ++ ·) := by
  cases o <;> simp

/-- the loop at index `i` with output `acc` so far: what is left to decode is the suffix `s.drop i` -/
theorem urlDecodeLoop_spec (s : Bytes) : ∀ (fuel i : Nat) (acc : Bytes), s.length ≤ i + fuel →
    urlDecodeLoop s fuel i acc = .ok ((pctDecode (s.drop i)).map (acc ++ ·)) := by
  obtain ⟨_, _, _, _, _, _, _, _, g9, g10, g11, _⟩ := gen_baggage
  intro fuel
  induction fuel with
  | zero =>
    intro i acc hf
    rw [urlDecodeLoop, if_neg (by omega), List.drop_eq_nil_iff.2 (by omega), pctDecode_nil]
    simp
  | succ f ih =>
    intro i acc hf
    rw [urlDecodeLoop]
    cases hd : s.drop i with
    | nil => rw [if_neg (Nat.not_lt.2 (List.drop_eq_nil_iff.1 hd)), pctDecode_nil]; simp
    | cons c t =>
      obtain ⟨hlt, hrd, ht⟩ := rd_of_drop hd
      -- every recursive call is one or three bytes further on, where the induction hypothesis applies
      have ih1 := fun acc => ih (i + 1) acc (by omega)
      have ih3 := fun acc => ih (i + 3) acc (by omega)
      simp only [if_pos hlt, hrd, IxRes.bind_ok, g9, g10, g11, ih1, ih3, ht, isHexC_eq, map_snoc, beq_iff_eq]
      by_cases h37 : c = 37
      · subst h37
        rw [if_pos rfl]
        match t, ht with
        | [], ht => rw [if_pos (by have := List.drop_eq_nil_iff.1 ht; omega), pctDecode_esc1]; rfl
        | [a], ht =>
          obtain ⟨_, _, ht'⟩ := rd_of_drop ht
          rw [if_pos (by have := List.drop_eq_nil_iff.1 ht'; omega), pctDecode_esc2]; rfl
        | a :: b :: t', ht =>
          obtain ⟨_, hrd1, ht1⟩ := rd_of_drop ht
          obtain ⟨hlt2, hrd2, ht2⟩ := rd_of_drop ht1
          rw [if_neg (by omega), hrd1, IxRes.bind_ok, hrd2, IxRes.bind_ok, ht2, pctDecode_esc]
          by_cases ha : IsHexChar a
          · by_cases hb : IsHexChar b
            · simp [ha, hb, shl_or16 a b ha hb]
            · simp [ha, hb]
          · simp [ha]
      · rw [if_neg h37]
        by_cases h43 : c = 43
        · subst h43; rw [if_pos rfl, pctDecode_plus]
        · rw [if_neg h43, pctDecode_other c t h37 h43]
          by_cases hu : Unreserved c
          · rw [if_pos ((isKeptDec_iff c).2 hu), if_pos hu]
          · rw [if_neg (mt (isKeptDec_iff c).1 hu), if_neg hu]; rfl
/-- **`UrlDecode` never reads out of bounds** — in particular not behind a truncated `%4` or `%` at the end — and is
    strict percent-decoding, for every byte string -/
theorem urlDecode_eq (s : Bytes) : urlDecode s = .ok (pctDecode s) := by
  unfold urlDecode
  rw [urlDecodeLoop_spec s s.length 0 [] (Nat.le_add_left _ _), List.drop_zero]
  cases pctDecode s <;> simp

theorem decode_never_oob (s : Bytes) : ∃ r, urlDecode s = .ok r := ⟨_, urlDecode_eq s⟩

theorem urlEncode_spec (s : Bytes) : urlEncode s = pctEncode s := by
  unfold urlEncode pctEncode
  rw [funext urlEncodeByte_spec]

theorem pctDecode_encodeByte_append (c : UInt8) (t : Bytes) :
    pctDecode (pctEncodeByte c ++ t) = (pctDecode t).map (c :: ·) := by
  unfold pctEncodeByte
  split
  · rename_i hu
    rw [List.singleton_append, pctDecode_other c t (unreserved_facts c hu).1 (unreserved_facts c hu).2.1, if_pos hu]
  · split
    · rename_i h32
      rw [h32, List.singleton_append, pctDecode_plus]
    · -- the two digits are hex digits of values `c / 16` and `c % 16`, and `c = 16 * (c / 16) + c % 16`
      obtain ⟨_, h1, v1, _⟩ := upperDigit_facts _ (nibble_lt c).1
      obtain ⟨_, h2, v2, _⟩ := upperDigit_facts _ (nibble_lt c).2
      rw [List.cons_append, List.cons_append, List.singleton_append, pctDecode_esc, if_pos ⟨h1, h2⟩, v1, v2,
        Nat.div_add_mod', UInt8.ofNat_toNat]

theorem pctEncode_cons (c : UInt8) (t : Bytes) : pctEncode (c :: t) = pctEncodeByte c ++ pctEncode t :=
  List.flatMap_cons

theorem pctDecode_pctEncode (s : Bytes) : pctDecode (pctEncode s) = some s := by
  induction s with
  | nil => rfl
  | cons c t ih => rw [pctEncode_cons, pctDecode_encodeByte_append, ih]; rfl

/-- **decode ∘ encode = id, for every byte string** (every byte value, printable or not) -/
theorem urlDecode_urlEncode (s : Bytes) : urlDecode (urlEncode s) = .ok (some s) := by
  rw [urlDecode_eq, urlEncode_spec, pctDecode_pctEncode]

theorem isPrintable_iff (s : Bytes) : isPrintable s = true ↔ Printable s := by
  obtain ⟨_, _, _, _, _, _, g7, g8, _⟩ := gen_baggage
  unfold isPrintable Printable
  rw [g7, g8]
  simp [List.all_eq_true]

/-- a printable string holds no NUL: its stored C-string copy is the string itself -/
theorem cstr_printable (s : Bytes) (h : Printable s) : cstr s = s := by
  unfold cstr
  induction s with
  | nil => rfl
  | cons c t ih =>
    have hc := h c (by simp)
    have hne : (c != 0) = true := by
      have : c ≠ 0 := by intro e; subst e; exact absurd hc.1 (by decide)
      simpa using this
    rw [List.takeWhile_cons, if_pos hne, ih (fun x hx => h x (by simp [hx]))]

theorem validKV_iff (ks vs : Bytes) : (isValidKey ks && isValidValue vs) = true ↔ (ks ≠ [] ∧ Printable ks ∧ Printable vs) := by
  simp [isValidKey, isValidValue, isPrintable_iff, and_assoc]

theorem add_of_lt (p : KvProps) (k v : Bytes) (h : p.entries.length < p.cap) :
    p.add k v = ⟨p.cap, p.entries ++ [(k, v)]⟩ := by
  unfold KvProps.add; rw [if_pos h]

/-- conditional `AddEntry` over a list into an array with room for all of it = append the filtered list -/
theorem foldl_add (cond : Bytes × Bytes → Bool) (es : Entries) (p : KvProps) (h : p.entries.length + es.length ≤ p.cap) :
    es.foldl (fun p e => if cond e then p.add e.1 e.2 else p) p = ⟨p.cap, p.entries ++ es.filter cond⟩ := by
  induction es generalizing p with
  | nil => simp
  | cons e t ih =>
    rw [List.foldl_cons, List.filter_cons]
    rw [List.length_cons] at h
    cases hc : cond e
    · exact ih p (by omega)
    · rw [if_pos rfl, add_of_lt p _ _ (by omega), ih _ (by simp; omega)]
      simp

theorem foldl_add_all (es : Entries) (p : KvProps) (h : p.entries.length + es.length ≤ p.cap) :
    es.foldl (fun p e => p.add e.1 e.2) p = ⟨p.cap, p.entries ++ es⟩ := by
  have h := foldl_add (fun _ => true) es p h
  rwa [List.filter_eq_self.2 fun _ _ => rfl] at h

/-- what `Set` and `Delete` must do, on the abstract ordered list -/
def specSet (es : Entries) (k v : Bytes) : Entries :=
  if k ≠ [] ∧ Printable k ∧ Printable v then (k, v) :: es.filter (fun e => e.1 != k) else es

def specDelete (es : Entries) (k : Bytes) : Entries := es.filter (fun e => e.1 != k)

theorem filter_ne_comm (es : Entries) (k : Bytes) :
    es.filter (fun e => k != e.1) = es.filter (fun e => e.1 != k) := by
  congr 1; funext e; exact bne_comm

/-- **`Set` refines the abstract map update**: a valid pair is put first and replaces an entry of the same key, every
    other entry is kept once, in order; an invalid key or value yields a copy -/
theorem set_eq (es : Entries) (k v : Bytes) : set es k v = specSet es k v := by
  unfold Baggage.set specSet
  by_cases hv : k ≠ [] ∧ Printable k ∧ Printable v
  · rw [if_pos hv, (validKV_iff k v).2 hv, cstr_printable k hv.2.1, cstr_printable v hv.2.2]
    simp only [if_true, Bool.not_true, Bool.false_or]
    rw [add_of_lt ⟨es.length + 1, []⟩ k v (Nat.succ_pos _), foldl_add (fun e => k != e.1) es _ (by simp; omega), filter_ne_comm]
    rfl
  · rw [if_neg hv, Bool.eq_false_iff.2 (mt (validKV_iff k v).1 hv)]
    simp only [Bool.false_eq_true, if_false, Bool.not_false, Bool.true_or, if_true]
    rw [foldl_add_all es _ (by simp)]
    rfl

theorem delete_eq (es : Entries) (k : Bytes) : delete es k = specDelete es k := by
  unfold delete specDelete
  rw [foldl_add (fun e => k != e.1) es _ (by simp), filter_ne_comm]
  rfl

/-- **Set replaces an existing key**: afterwards the key maps to the new value, occurs exactly once, and every entry
    of another key is where it was (same order) -/
theorem set_replaces (es : Entries) (k v : Bytes) (hk : k ≠ []) (hpk : Printable k) (hpv : Printable v) :
    get (set es k v) k = some v ∧
    (set es k v).filter (fun e => e.1 == k) = [(k, v)] ∧
    (set es k v).filter (fun e => e.1 != k) = es.filter (fun e => e.1 != k) := by
  rw [set_eq, specSet, if_pos ⟨hk, hpk, hpv⟩]
  refine ⟨by simp [Baggage.get], ?_, ?_⟩
  · simp [List.filter_filter, List.filter_eq_nil_iff]
  · simp [List.filter_filter]

/-- an invalid key or value: the result is a copy of the baggage -/
theorem set_invalid_copy (es : Entries) (k v : Bytes) (h : ¬ (k ≠ [] ∧ Printable k ∧ Printable v)) : set es k v = es := by
  rw [set_eq, specSet, if_neg h]

/-- **Delete removes the key** (every occurrence) and keeps every other entry where it was -/
theorem delete_removes (es : Entries) (k : Bytes) :
    get (delete es k) k = none ∧ (∀ e ∈ delete es k, e.1 ≠ k) ∧ delete es k = es.filter (fun e => e.1 != k) := by
  rw [delete_eq, specDelete]
  exact ⟨by simp [Baggage.get], by simp, rfl⟩

theorem mem_set {es : Entries} {k v : Bytes} {e : Bytes × Bytes} (h : e ∈ set es k v) : e = (k, v) ∨ e ∈ es := by
  rw [set_eq, specSet] at h
  split at h
  · exact (List.mem_cons.1 h).imp_right fun h => (List.mem_filter.1 h).1
  · exact Or.inr h

theorem mem_delete {es : Entries} {k : Bytes} {e : Bytes × Bytes} (h : e ∈ delete es k) : e ∈ es := by
  rw [delete_eq, specDelete] at h
  exact (List.mem_filter.1 h).1

/-! ### neither changes the baggage it was called on: histories -/

/-- an operation names the (earlier) baggage it is applied to; its result is a **new** baggage appended to the family -/
inductive Op where
  | set (i : Nat) (k v : Bytes)
  | delete (i : Nat) (k : Bytes)
  | fromHeader (h : Bytes)
  deriving Repr

def step (st : List Entries) : Op → List Entries
  | .set i k v => st ++ [set (st.getD i []) k v]
  | .delete i k => st ++ [delete (st.getD i []) k]
  | .fromHeader h => st ++ [match fromHeader h with | .ok e => e | .fault _ => []]

def run (ops : List Op) : List Entries := ops.foldl step [[]]

theorem step_eq (st : List Entries) (op : Op) : ∃ x, step st op = st ++ [x] := by cases op <;> exact ⟨_, rfl⟩

/-- **Set and Delete are pure**: after any further history every baggage that existed before still has exactly the
    entries it had (in the C++ this is what the harness re-reads after every operation) -/
theorem set_delete_pure (ops more : List Op) (i : Nat) (hi : i < (run ops).length) :
    (run (ops ++ more))[i]? = (run ops)[i]? := by
  unfold run at hi ⊢
  rw [List.foldl_append]
  generalize List.foldl step [[]] ops = st at hi ⊢
  induction more generalizing st with
  | nil => rfl
  | cons op t ih =>
    obtain ⟨x, hx⟩ := step_eq st op
    rw [List.foldl_cons, ih (step st op) (by rw [hx, List.length_append]; omega), hx, List.getElem?_append_left hi]

/-- value part and metadata (from the first `;` on, verbatim) -/
def metaSplit (v : Bytes) : Bytes × Bytes :=
  match takeTok 59 v with
  | (a, none) => (a, [])
  | (a, some r) => (a, 59 :: r)

theorem splitMeta_eq (v : Bytes) : splitMeta v = metaSplit v := by
  obtain ⟨_, _, _, _, _, g6, _⟩ := gen_baggage
  unfold splitMeta metaSplit
  rw [g6]
  cases takeTok 59 v with
  | mk a o => cases o <;> rfl

/-- **what one list member contributes**, read off the property text: it must have a `=`; key and value together at
    most 4096 bytes; the value is cut at the first `;` (the rest is metadata, kept verbatim); key and value part are
    trimmed and strictly percent-decoded; the decoded key must be non-empty printable, the decoded value printable.
    (`cstr`: the entry is stored as a C string, so what is seen of it ends at a NUL byte — only metadata can hold one.) -/
def memberEntry (m : Bytes) : Option (Bytes × Bytes) :=
  match splitKv 61 m with
  | none => none
  | some (k, v) =>
    if k.length + v.length > 4096 then none
    else
      match pctDecode (trim k), pctDecode (trim (metaSplit v).1) with
      | some ks, some vs =>
        if ks ≠ [] ∧ Printable ks ∧ Printable vs then some (cstr ks, cstr (vs ++ (metaSplit v).2)) else none
      | _, _ => none

/-- the loop body never faults (both `Trim`s and both `UrlDecode`s stay inside their strings) and computes `memberEntry` -/
theorem parseKv_eq (m : Bytes) : parseKv (splitKv 61 m) = .ok (memberEntry m) := by
  obtain ⟨_, g2, _⟩ := gen_baggage
  unfold parseKv memberEntry
  rw [g2]
  cases splitKv 61 m with
  | none => rfl
  | some p =>
    obtain ⟨k, v⟩ := p
    simp only [KvIdx.trim1_spec, urlDecode_eq, IxRes.bind_ok, splitMeta_eq, validKV_iff]
    split
    · rfl
    · -- with both sub-calls replaced by their results the two sides branch alike: a failed decoding of the key or
      -- of the value gives `none` on both, and the validity tests are the same proposition (`validKV_iff`)
      cases pctDecode (trim k) with
      | none => rfl
      | some ks =>
        cases pctDecode (trim (metaSplit v).1) with
        | none => rfl
        | some vs =>
          by_cases hv : ks ≠ [] ∧ Printable ks ∧ Printable vs
          · simp only []; rw [if_pos hv, if_pos hv]
          · simp only []; rw [if_neg hv, if_neg hv]

theorem fromHeaderLoop_eq (cnt : Nat) (ms : List Bytes) (p : KvProps) (hc : p.cap = cnt) (hl : p.entries.length ≤ cnt) :
    fromHeaderLoop cnt (ms.map (splitKv 61)) p = .ok ⟨cnt, (p.entries ++ ms.filterMap memberEntry).take cnt⟩ := by
  induction ms generalizing p with
  | nil =>
    simp only [List.map_nil, fromHeaderLoop, List.filterMap_nil, List.append_nil]
    rw [List.take_of_length_le hl, ← hc]
  | cons m ms ih =>
    simp only [List.map_cons, fromHeaderLoop]
    by_cases hlt : p.entries.length < cnt
    · rw [if_pos hlt, parseKv_eq, IxRes.bind_ok]
      cases hm : memberEntry m with
      | none =>
        simp only []
        rw [ih p hc hl, List.filterMap_cons, hm]
      | some e =>
        obtain ⟨k, v⟩ := e
        simp only []
        rw [add_of_lt p k v (by rw [hc]; exact hlt), hc, ih _ rfl (by simp; omega), List.filterMap_cons, hm]
        simp
    · rw [if_neg hlt]
      have heq : p.entries.length = cnt := by omega
      have : (p.entries ++ (m :: ms).filterMap memberEntry).take cnt = p.entries := by
        rw [← heq]; exact List.take_left' rfl
      rw [this, ← hc]

/-- **`FromHeader`, exactly**: never a fault — the tokenizer, both `Trim`s and both `UrlDecode`s never read outside
    their strings and no `size_t` expression wraps; an over-long header gives the empty baggage; otherwise the entries are
    the contributions of the trimmed non-empty `,`-separated members, in order, cut off after
    min(number of `,`-separated tokens, 180) entries -/
theorem fromHeader_eq (h : Bytes) : fromHeader h =
    .ok (if h.length > 8192 then [] else ((members 44 h).filterMap memberEntry).take (min (numTok 44 h) 180)) := by
  obtain ⟨g1, _, g3, g4, g5, _⟩ := gen_baggage
  unfold fromHeader
  rw [g1, g3, g5]
  by_cases hl : h.length > 8192
  · rw [if_pos hl, if_pos hl]
  · rw [if_neg hl, if_neg hl]
    have hmin : (if numTok 44 h > 180 then 180 else numTok 44 h) = min (numTok 44 h) 180 := by
      split <;> omega
    simp only []
    rw [hmin, g4, KvIdx.tokens_eq, IxRes.bind_ok,
      fromHeaderLoop_eq (min (numTok 44 h) 180) (members 44 h) ⟨min (numTok 44 h) 180, []⟩ rfl (by simp)]
    simp

theorem fromHeader_never_oob (h : Bytes) : ∃ r, fromHeader h = .ok r := ⟨_, fromHeader_eq h⟩

/-- the entries `FromHeader` yields, as a total function (justified by `fromHeader_eq`) -/
def parsed (h : Bytes) : Entries :=
  if h.length > 8192 then [] else ((members 44 h).filterMap memberEntry).take (min (numTok 44 h) 180)

/-- **the three limits**: a header of more than 8192 bytes yields nothing; never more than 180 entries; a member whose
    key and value together exceed 4096 bytes contributes nothing -/
theorem fromHeader_limits (h : Bytes) :
    (h.length > 8192 → fromHeader h = .ok []) ∧
    (∀ es, fromHeader h = .ok es → es.length ≤ 180) ∧
    (∀ m k v, splitKv 61 m = some (k, v) → k.length + v.length > 4096 → memberEntry m = none) := by
  refine ⟨fun hl => by rw [fromHeader_eq, if_pos hl], fun es he => ?_, fun m k v hs hl => by simp [memberEntry, hs, hl]⟩
  rw [fromHeader_eq] at he
  cases he
  split
  · exact Nat.zero_le _
  · rw [List.length_take]; omega
/-- **only valid members are kept**: every entry of the result is the contribution of some list member of the header —
    a member with a `=`, within 4096 bytes, whose trimmed key and value part decode strictly to a non-empty printable
    key and a printable value; the entry is that key and that value followed by the member's metadata -/
theorem fromHeader_only_valid (h : Bytes) (es : Entries) (he : fromHeader h = .ok es) :
    ∀ e ∈ es, ∃ m ∈ members 44 h, ∃ k v ks vs, splitKv 61 m = some (k, v) ∧ k.length + v.length ≤ 4096 ∧
      pctDecode (trim k) = some ks ∧ pctDecode (trim (metaSplit v).1) = some vs ∧
      ks ≠ [] ∧ Printable ks ∧ Printable vs ∧ e = (cstr ks, cstr (vs ++ (metaSplit v).2)) := by
  rw [fromHeader_eq] at he
  injection he with he
  intro e hmem
  rw [← he] at hmem
  split at hmem
  · cases hmem
  · obtain ⟨m, hm, hme⟩ := List.mem_filterMap.1 (List.mem_of_mem_take hmem)
    refine ⟨m, hm, ?_⟩
    -- `memberEntry m = some e` leaves one branch of its definition
    unfold memberEntry at hme
    split at hme
    · cases hme
    · rename_i k v hs
      split at hme
      · cases hme
      · split at hme
        · rename_i ks vs hk hv
          split at hme
          · rename_i hval
            exact ⟨k, v, ks, vs, hs, by omega, hk, hv, hval.1, hval.2.1, hval.2.2, (Option.some.inj hme).symm⟩
          · cases hme
        · cases hme

/-! ## Round trip: `FromHeader (ToHeader b) = b` -/

/-- does a metadata part end in white space (which the tokenizer would trim away)? -/
def endsInSpace (m : Bytes) : Bool :=
  match m.getLast? with
  | some c => isSpace c
  | none => false

/-- **An entry that must survive the round trip** (explicit, decidable): non-empty printable key, printable value;
    after the first `;` of the value (the metadata, written verbatim) no `,` — "values without an unescaped separator
    after `;`" — and **no trailing white space** (D18: the tokenizer trims every list member, as the W3C grammar's
    optional white space allows); and the written member is within the 4096-byte member limit. -/
def RoundTrippableEntry (e : Bytes × Bytes) : Prop :=
  e.1 ≠ [] ∧ Printable e.1 ∧ Printable e.2 ∧ 44 ∉ (metaSplit e.2).2 ∧ endsInSpace (metaSplit e.2).2 = false ∧
  (pctEncode e.1).length + (pctEncode (metaSplit e.2).1 ++ (metaSplit e.2).2).length ≤ 4096

/-- … and the whole baggage is within the 180-member and 8192-byte header limits -/
def RoundTrippable (es : Entries) : Prop :=
  (∀ e ∈ es, RoundTrippableEntry e) ∧ es.length ≤ 180 ∧ (toHeader es).length ≤ 8192

instance (e : Bytes × Bytes) : Decidable (RoundTrippableEntry e) := by unfold RoundTrippableEntry; exact inferInstance
instance (es : Entries) : Decidable (RoundTrippable es) := by unfold RoundTrippable; exact inferInstance

def NoSpace (s : Bytes) : Prop := ∀ c ∈ s, isSpace c = false

theorem pctEncode_clean (s : Bytes) : 44 ∉ pctEncode s ∧ 61 ∉ pctEncode s ∧ 59 ∉ pctEncode s ∧ NoSpace (pctEncode s) := by
  have h : ∀ x ∈ pctEncode s, x ≠ 44 ∧ x ≠ 61 ∧ x ≠ 59 ∧ x ≠ 0 ∧ isSpace x = false := fun x hx => by
    obtain ⟨c, _, hc⟩ := List.mem_flatMap.1 hx
    exact pctEncodeByte_clean c x hc
  exact ⟨fun hx => (h 44 hx).1 rfl, fun hx => (h 61 hx).2.1 rfl, fun hx => (h 59 hx).2.2.1 rfl, fun x hx => (h x hx).2.2.2.2⟩

theorem trimLeft_id (s : Bytes) (h : ∀ c, s.head? = some c → isSpace c = false) : trimLeft s = s := by
  cases s with
  | nil => rfl
  | cons c t => exact trimLeft_of_head (h c rfl)

theorem trim_id (s : Bytes) (h1 : ∀ c, s.head? = some c → isSpace c = false)
    (h2 : ∀ c, s.getLast? = some c → isSpace c = false) : trim s = s := by
  unfold trim trimRight
  rw [trimLeft_id s h1, trimLeft_id s.reverse (by rw [List.head?_reverse]; exact h2), List.reverse_reverse]

theorem trim_nospace (s : Bytes) (h : NoSpace s) : trim s = s :=
  trim_id s (fun c hc => h c (List.mem_of_head? hc)) (fun c hc => h c (List.mem_of_getLast? hc))

theorem trim_append_id (x m : Bytes) (hx : x ≠ []) (hns : NoSpace x) (hm : endsInSpace m = false) :
    trim (x ++ m) = x ++ m := by
  apply trim_id
  · intro c hc
    obtain ⟨y, t, rfl⟩ := List.exists_cons_of_ne_nil hx
    cases hc
    exact hns c (List.mem_cons_self ..)
  · intro c hc
    rw [List.getLast?_append] at hc
    unfold endsInSpace at hm
    cases hl : m.getLast? with
    | none => rw [hl] at hc; exact hns c (List.mem_of_getLast? hc)
    | some y => rw [hl] at hc hm; cases hc; exact hm

theorem metaSplit_spec (v : Bytes) :
    (metaSplit v).1 ++ (metaSplit v).2 = v ∧ ((metaSplit v).2 = [] ∨ ∃ r, (metaSplit v).2 = 59 :: r) := by
  unfold metaSplit
  cases h : takeTok 59 v with
  | mk a o =>
    cases o with
    | none => exact ⟨by rw [(takeTok_none h).1]; exact List.append_nil a, Or.inl rfl⟩
    | some r => exact ⟨(takeTok_some h).1.symm, Or.inr ⟨r, rfl⟩⟩

theorem metaSplit_encoded (a m : Bytes) (hm : m = [] ∨ ∃ r, m = 59 :: r) : metaSplit (pctEncode a ++ m) = (pctEncode a, m) := by
  have h59 := (pctEncode_clean a).2.2.1
  unfold metaSplit
  rcases hm with hm | ⟨r, hm⟩
  · subst hm; rw [List.append_nil, takeTok_no_sep _ h59]
  · subst hm; rw [takeTok_append_sep _ _ h59]

theorem memberOf_spec (e : Bytes × Bytes) :
    memberOf e = pctEncode e.1 ++ 61 :: (pctEncode (metaSplit e.2).1 ++ (metaSplit e.2).2) := by
  obtain ⟨_, _, _, g4, _⟩ := gen_baggage
  unfold memberOf encodeValue
  simp only [g4, urlEncode_spec, splitMeta_eq]
  simp

/-- **what `ToHeader` writes**: the members `pct(key)=pct(value part)metadata`, joined by `,` — the metadata verbatim -/
theorem toHeader_spec (es : Entries) :
    toHeader es = joinMembers (es.map fun e => pctEncode e.1 ++ 61 :: (pctEncode (metaSplit e.2).1 ++ (metaSplit e.2).2)) := by
  unfold toHeader
  congr 1
  exact List.map_congr_left (fun e _ => memberOf_spec e)

/-- **one member round-trips**: the written member has no `,`, is not empty, is untouched by trimming, and
    contributes exactly the entry it was written from -/
theorem member_roundtrip (e : Bytes × Bytes) (h : RoundTrippableEntry e) :
    44 ∉ memberOf e ∧ memberOf e ≠ [] ∧ trim (memberOf e) = memberOf e ∧ memberEntry (memberOf e) = some e := by
  obtain ⟨k, v⟩ := e
  obtain ⟨hk, hpk, hpv, hcomma, hend, hsize⟩ := h
  simp only [] at hk hpk hpv hcomma hend hsize
  obtain ⟨hjoin, hshape⟩ := metaSplit_spec v
  rw [memberOf_spec]
  simp only []
  generalize (metaSplit v).1 = a at *
  generalize (metaSplit v).2 = m at *
  obtain ⟨k44, k61, _, kns⟩ := pctEncode_clean k
  obtain ⟨a44, _, _, ans⟩ := pctEncode_clean a
  have hpa : Printable a := fun c hc => hpv c (hjoin ▸ List.mem_append_left m hc)
  -- the encoded part `pct(k)=pct(a)` has no white space; the member is that part followed by the metadata `m`
  have hpre : NoSpace (pctEncode k ++ 61 :: pctEncode a) := by
    intro c hc
    rcases List.mem_append.1 hc with hc | hc
    · exact kns c hc
    · rcases List.mem_cons.1 hc with rfl | hc
      · decide
      · exact ans c hc
  have hm : pctEncode k ++ 61 :: (pctEncode a ++ m) = (pctEncode k ++ 61 :: pctEncode a) ++ m := by simp
  refine ⟨?_, ?_, ?_, ?_⟩
  · simp only [List.mem_append, List.mem_cons, not_or]
    exact ⟨k44, by decide, a44, hcomma⟩
  · simp
  · rw [hm]; exact trim_append_id _ m (by simp) hpre hend
  · unfold memberEntry splitKv
    rw [takeTok_append_sep _ _ k61]
    simp only []
    rw [if_neg (by omega), metaSplit_encoded a m hshape]
    simp only []
    rw [trim_nospace _ kns, trim_nospace _ ans, pctDecode_pctEncode, pctDecode_pctEncode]
    simp only []
    rw [if_pos ⟨hk, hpk, hpa⟩, cstr_printable k hpk, hjoin, cstr_printable v hpv]

theorem joinMembers_cons2 (m m' : Bytes) (t : List Bytes) : joinMembers (m :: m' :: t) = m ++ 44 :: joinMembers (m' :: t) := by
  obtain ⟨_, _, _, _, g5, _⟩ := gen_baggage
  simp [joinMembers, g5]

def GoodMember (m : Bytes) : Prop := 44 ∉ m ∧ m ≠ [] ∧ trim m = m

theorem numTokens_nil (sep : UInt8) (fuel : Nat) : numTokens sep fuel [] = 0 := by cases fuel <;> rfl

theorem numTokens_succ {sep : UInt8} {rest tok : Bytes} {o : Option Bytes} (fuel : Nat) (hne : rest ≠ [])
    (h : takeTok sep rest = (tok, o)) : numTokens sep (fuel + 1) rest = 1 + numTokens sep fuel (o.getD []) := by
  obtain ⟨c, t, rfl⟩ := List.exists_cons_of_ne_nil hne
  simp only [numTokens, h]
  cases o with
  | none => simp only [Option.getD_none, numTokens_nil]
  | some r => rfl

theorem tokens_join (ms : List Bytes) (fuel : Nat) (hg : ∀ m ∈ ms, GoodMember m) (hf : (joinMembers ms).length ≤ fuel) :
    kvMembers 44 fuel (joinMembers ms) = ms ∧ numTokens 44 fuel (joinMembers ms) = ms.length := by
  induction ms generalizing fuel with
  | nil => exact ⟨KvIdx.kvMembers_nil 44 fuel, numTokens_nil 44 fuel⟩
  | cons m t ih =>
    obtain ⟨h1, h2, h3⟩ := hg m (List.mem_cons_self ..)
    -- the first member ends at the first `,`, or at the end of the header
    obtain ⟨o, htk, ho, hlen⟩ : ∃ o, takeTok 44 (joinMembers (m :: t)) = (m, o) ∧ o.getD [] = joinMembers t ∧
        m.length + (joinMembers t).length ≤ (joinMembers (m :: t)).length := by
      cases t with
      | nil => exact ⟨none, takeTok_no_sep m h1, rfl, by simp [joinMembers]⟩
      | cons m' t' => rw [joinMembers_cons2]; exact ⟨some _, takeTok_append_sep _ _ h1, rfl, by simp⟩
    have hm : 0 < m.length := List.length_pos_iff.2 h2
    have hne : joinMembers (m :: t) ≠ [] := List.length_pos_iff.1 (by omega)
    cases fuel with
    | zero => omega
    | succ f =>
      obtain ⟨ih1, ih2⟩ := ih f (fun x hx => hg x (List.mem_cons_of_mem _ hx)) (by omega)
      rw [KvIdx.kvMembers_succ f hne htk, numTokens_succ f hne htk, ho, ih1, ih2, h3, if_neg (by simpa using h2),
        List.length_cons, Nat.add_comm]
      exact ⟨rfl, rfl⟩

theorem filterMap_memberOf : ∀ (es : Entries), (∀ e ∈ es, RoundTrippableEntry e) → (es.map memberOf).filterMap memberEntry = es
  | [], _ => rfl
  | e :: t, h => by
    rw [List.map_cons, List.filterMap_cons, (member_roundtrip e (h e (by simp))).2.2.2,
      filterMap_memberOf t (fun x hx => h x (by simp [hx]))]

/-- **Round trip**: every baggage whose entries are `RoundTrippable` is written by `ToHeader` as a header from which
    `FromHeader` rebuilds exactly the same entries in the same order -/
theorem fromHeader_toHeader (es : Entries) (h : RoundTrippable es) : fromHeader (toHeader es) = .ok es := by
  obtain ⟨he, hn, hsz⟩ := h
  have hg : ∀ m ∈ es.map memberOf, GoodMember m := by
    intro m hm
    rw [List.mem_map] at hm
    obtain ⟨e, hem, rfl⟩ := hm
    obtain ⟨a, b, c, _⟩ := member_roundtrip e (he e hem)
    exact ⟨a, b, c⟩
  rw [fromHeader_eq, if_neg (by omega)]
  obtain ⟨hmem, hnum⟩ := tokens_join _ _ hg (Nat.le_refl _)
  unfold toHeader members numTok
  rw [hmem, hnum, filterMap_memberOf es he, List.length_map, List.take_of_length_le (by omega)]

/-- entries put in by `Set` stay `RoundTrippable` entries: **every baggage built through Set** (and Delete) **from
    `RoundTrippable` entries** consists of such entries … -/
theorem built_entries (ops : List Op) (hops : ∀ op ∈ ops, match op with
      | .set _ k v => RoundTrippableEntry (k, v)
      | .delete _ _ => True
      | .fromHeader _ => False) :
    ∀ st ∈ run ops, ∀ e ∈ st, RoundTrippableEntry e := by
  unfold run
  have h : ∀ st ∈ ([[]] : List Entries), ∀ e ∈ st, RoundTrippableEntry e := by simp
  generalize ([[]] : List Entries) = st0 at h ⊢
  induction ops generalizing st0 with
  | nil => exact h
  | cons op t ih =>
    refine ih (fun o ho => hops o (List.mem_cons_of_mem _ ho)) (step st0 op) ?_
    have hget : ∀ i, ∀ e ∈ st0.getD i [], RoundTrippableEntry e := by
      intro i e he
      rw [List.getD_eq_getElem?_getD] at he
      cases hx : st0[i]? <;> rw [hx] at he
      · cases he
      · exact h _ (List.mem_of_getElem? hx) e he
    have hop := hops op (List.mem_cons_self ..)
    -- the step appends one baggage, made of entries of an earlier one and (for `set`) the new pair
    obtain ⟨x, hx, hxe⟩ : ∃ x, step st0 op = st0 ++ [x] ∧ ∀ e ∈ x, RoundTrippableEntry e := by
      cases op with
      | set i k v => exact ⟨_, rfl, fun e he => (mem_set he).elim (fun h => h ▸ hop) (hget i e)⟩
      | delete i k => exact ⟨_, rfl, fun e he => hget i e (mem_delete he)⟩
      | fromHeader _ => exact hop.elim
    intro st hst e he
    rw [hx] at hst
    rcases List.mem_append.1 hst with hst | hst
    · exact h st hst e he
    · exact hxe e (List.mem_singleton.1 hst ▸ he)
/-- … and therefore round-trips, as long as it stays within the 180-member / 8192-byte limits -/
theorem fromHeader_toHeader_built (ops : List Op) (hops : ∀ op ∈ ops, match op with
      | .set _ k v => RoundTrippableEntry (k, v)
      | .delete _ _ => True
      | .fromHeader _ => False)
    (st : Entries) (hst : st ∈ run ops) (hn : st.length ≤ 180) (hsz : (toHeader st).length ≤ 8192) :
    fromHeader (toHeader st) = .ok st :=
  fromHeader_toHeader st ⟨built_entries ops hops st hst, hn, hsz⟩

/-! ### D18 — the excluded point, in the model: trailing white space of the metadata does not survive -/

/-- `k=v;m␠` is written as `k=v;m␠` and parsed back as `k=v;m`: the hypothesis "metadata does not end in white space"
    of `fromHeader_toHeader` cannot be dropped (the W3C grammar allows optional white space around list members, so
    the trimming is conformant; it only is not "verbatim") -/
theorem fromHeader_toHeader_trailing_space_witness :
    toHeader [([107], [118, 59, 109, 32])] = [107, 61, 118, 59, 109, 32] ∧
    fromHeader (toHeader [([107], [118, 59, 109, 32])]) = .ok [([107], [118, 59, 109])] ∧
    ¬ RoundTrippableEntry ([107], [118, 59, 109, 32]) := by decide +kernel

/-- likewise an unescaped `,` after `;` splits the member (outside the property's quantifier) -/
theorem fromHeader_toHeader_comma_in_metadata_witness :
    fromHeader (toHeader [([107], [118, 59, 109, 44, 120])]) = .ok [([107], [118, 59, 109])] ∧
    ¬ RoundTrippableEntry ([107], [118, 59, 109, 44, 120]) := by decide +kernel

open Otel.Propagation

theorem toHeader_eq_nil_iff (es : Entries) : toHeader es = [] ↔ es = [] := by
  refine ⟨fun h => ?_, fun h => by rw [h]; rfl⟩
  match es, h with
  | [], _ => rfl
  | [e], h => exact absurd h (by simp [toHeader, joinMembers, memberOf])
  | e :: e' :: t, h => rw [toHeader, List.map_cons, List.map_cons, joinMembers_cons2] at h; simp at h

theorem toHeader_isEmpty_iff (es : Entries) : (toHeader es).isEmpty = true ↔ es = [] := by
  rw [List.isEmpty_iff, toHeader_eq_nil_iff]

/-- `BaggagePropagator::Extract`, exactly: the parsed baggage is installed iff it has at least one entry -/
theorem baggage_extract_eq (car : Carrier) (ctx : PCtx) :
    Propagation.baggage.extract car (.ok ctx) =
      .ok (if parsed (car.get [98, 97, 103, 103, 97, 103, 101]) = [] then ctx
           else { ctx with baggage := some (parsed (car.get [98, 97, 103, 103, 97, 103, 101])) }) := by
  obtain ⟨_, _, _, _, _, _, _, _, _, _, _, _, _, _, g15⟩ := gen_baggage
  unfold Propagation.baggage
  simp only [IxRes.bind_ok, g15, fromHeader_eq, toHeader_isEmpty_iff]
  rw [apply_ite IxRes.ok]
  rfl

/-- **Extraction leaves the context untouched when nothing valid remains**: whatever bytes the `baggage` header holds
    (absent, junk, only invalid or oversize members, an over-long header), if no valid member remains the caller's
    context is returned as it is -/
theorem extract_empty_leaves_context (car : Carrier) (ctx : PCtx)
    (h : fromHeader (car.get [98, 97, 103, 103, 97, 103, 101]) = .ok []) :
    Propagation.baggage.extract car (.ok ctx) = .ok ctx := by
  rw [fromHeader_eq] at h
  rw [baggage_extract_eq, parsed, IxRes.ok.inj h, if_pos rfl]

/-- … and otherwise only the baggage slot changes (the span and every other binding stay) -/
theorem extract_installs_parsed (car : Carrier) (ctx : PCtx) (es : Entries) (hne : es ≠ [])
    (h : fromHeader (car.get [98, 97, 103, 103, 97, 103, 101]) = .ok es) :
    Propagation.baggage.extract car (.ok ctx) = .ok { ctx with baggage := some es } := by
  rw [fromHeader_eq] at h
  rw [baggage_extract_eq, parsed, IxRes.ok.inj h, if_neg hne]

/-- the propagator writes the header of the context's baggage, and only when there is something to write -/
theorem baggage_inject_eq (car : Carrier) (ctx : PCtx) :
    Propagation.baggage.inject car (.ok ctx) =
      if ctx.baggage.getD [] = [] then car else car.set [98, 97, 103, 103, 97, 103, 101] (toHeader (ctx.baggage.getD [])) := by
  obtain ⟨_, _, _, _, _, _, _, _, _, _, _, _, _, _, g15⟩ := gen_baggage
  unfold Propagation.baggage
  simp only [g15, toHeader_isEmpty_iff]

/-- **propagator round trip**: a context whose baggage is `RoundTrippable` and non-empty is injected as a `baggage`
    header from which extraction into any context installs exactly that baggage -/
theorem baggage_propagator_roundtrip (ctx ctx' : PCtx) (es : Entries) (hb : ctx.baggage = some es) (hne : es ≠ [])
    (hr : RoundTrippable es) :
    Propagation.baggage.extract (Propagation.baggage.inject [] (.ok ctx)) (.ok ctx') = .ok { ctx' with baggage := some es } := by
  have hget : ∀ n v : Bytes, Carrier.get (Carrier.set [] n v) n = v := fun n v => by simp [Carrier.get, Carrier.set]
  rw [baggage_inject_eq, hb, Option.getD_some, if_neg hne]
  exact extract_installs_parsed _ _ _ hne (by rw [hget]; exact fromHeader_toHeader es hr)

theorem loop_eq_foldl {α β : Type} (f : β → α → β) (loop : List α → β → β) (h0 : ∀ b, loop [] b = b)
    (h1 : ∀ a t b, loop (a :: t) b = loop t (f b a)) : ∀ l b, loop l b = l.foldl f b
  | [], b => h0 b
  | a :: t, b => by rw [h1, loop_eq_foldl f loop h0 h1 t, List.foldl_cons]

/-- **Inject applies every configured propagator, in order, to the same context** -/
theorem composite_inject_eq_foldl {Ctx Car : Type} (empty : Ctx) (ps : List (Propagator Ctx Car)) (car : Car) (ctx : Ctx) :
    (composite empty ps).inject car ctx = ps.foldl (fun c p => p.inject c ctx) car :=
  loop_eq_foldl _ (compositeInjectLoop ctx) (fun _ => rfl) (fun _ _ _ => rfl) ps car

/-- **Extract threads the context through all configured propagators in order**: the first one extracts into the
    caller's context, each later one into the result of its predecessor (the `first` flag and the default-constructed
    `tmp_context` of the C++ never show) -/
theorem composite_extract_eq_foldl {Ctx Car : Type} (empty : Ctx) (ps : List (Propagator Ctx Car)) (car : Car) (ctx : Ctx) :
    (composite empty ps).extract car ctx = ps.foldl (fun c p => p.extract car c) ctx := by
  -- behind the first propagator the flag is off and the loop is a fold over `tmp_context`
  have hloop := loop_eq_foldl (fun c p => p.extract car c) (fun ps tmp => compositeExtractLoop car ctx ps false tmp)
    (fun _ => rfl) (fun _ _ _ => rfl)
  cases ps with
  | nil => rfl
  | cons p t => exact hloop t (p.extract car ctx)

/-- **the empty composite is the identity**: nothing is written, the caller's context comes back -/
theorem composite_empty_identity {Ctx Car : Type} (empty : Ctx) (car : Car) (ctx : Ctx) :
    (composite empty ([] : List (Propagator Ctx Car))).inject car ctx = car ∧
    (composite empty ([] : List (Propagator Ctx Car))).extract car ctx = ctx := ⟨rfl, rfl⟩

/-- a composite of composites is the composite of the concatenation (both directions are folds) -/
theorem composite_append {Ctx Car : Type} (empty : Ctx) (ps qs : List (Propagator Ctx Car)) (car : Car) (ctx : Ctx) :
    (composite empty (ps ++ qs)).inject car ctx = (composite empty qs).inject ((composite empty ps).inject car ctx) ctx ∧
    (composite empty (ps ++ qs)).extract car ctx = (composite empty qs).extract car ((composite empty ps).extract car ctx) := by
  simp only [composite_inject_eq_foldl, composite_extract_eq_foldl, List.foldl_append, and_self]

/-- the five built-in propagators -/
def Builtin (p : Propagator RCtx Carrier) : Prop :=
  p = w3c ∨ p = b3Single ∨ p = b3Multi ∨ p = jaeger ∨ p = Propagation.baggage

theorem withSpan_ok (ctx : PCtx) (f : PCtx → IxRes (Option TraceContext.SpanCtx)) (h : ∃ o, f ctx = .ok o) :
    ∃ ctx', withSpan (.ok ctx) f = .ok ctx' := by
  obtain ⟨o, h⟩ := h
  unfold withSpan
  rw [IxRes.bind_ok, h, IxRes.bind_ok]
  cases o <;> exact ⟨_, rfl⟩

/-- every built-in extractor, on every carrier and context, returns a context (no fault token) -/
theorem builtin_extract_ok (p : Propagator RCtx Carrier) (hp : Builtin p) (car : Carrier) (ctx : PCtx) :
    ∃ ctx', p.extract car (.ok ctx) = .ok ctx' := by
  have b3 : ∃ ctx', b3Extract car (.ok ctx) = .ok ctx' := withSpan_ok ctx _ ⟨_, C16.b3_extract_eq _ _ _ _⟩
  -- with the record spelled out, its `extract` field applied to `car` and `ctx` is the call of `withSpan` itself
  rcases hp with h | h | h | h | h <;> subst h
  · simp only [w3c]; exact withSpan_ok ctx _ ⟨_, rfl⟩
  · simp only [b3Single]; exact b3
  · simp only [b3Multi]; exact b3
  · simp only [jaeger]; exact withSpan_ok ctx _ ⟨_, C16.jaeger_extract_eq _⟩
  · exact ⟨_, baggage_extract_eq car ctx⟩

theorem composite_extract_ok {Car : Type} (empty : RCtx) (ps : List (Propagator RCtx Car)) (car : Car)
    (hps : ∀ p ∈ ps, ∀ ctx, ∃ ctx', p.extract car (.ok ctx) = .ok ctx') (ctx : PCtx) :
    ∃ ctx', (composite empty ps).extract car (.ok ctx) = .ok ctx' := by
  rw [composite_extract_eq_foldl]
  induction ps generalizing ctx with
  | nil => exact ⟨ctx, rfl⟩
  | cons p t ih =>
    obtain ⟨c1, h1⟩ := hps p (List.mem_cons_self ..) ctx
    rw [List.foldl_cons, h1]
    exact ih (fun q hq => hps q (List.mem_cons_of_mem _ hq)) c1

/-- **a composite of any built-in propagators, in any order and multiplicity, never faults on any carrier**: the
    out-of-bounds freedom of the parts carries over to the whole -/
theorem composite_builtin_never_faults (ps : List (Propagator RCtx Carrier)) (hps : ∀ p ∈ ps, Builtin p)
    (car : Carrier) (ctx : PCtx) : ∃ ctx', (composite emptyCtx ps).extract car (.ok ctx) = .ok ctx' :=
  composite_extract_ok emptyCtx ps car (fun p hp ctx => builtin_extract_ok p (hps p hp) car ctx) ctx

/-- **the container constructor keeps the caller's pairs in order** (as NUL-terminated copies: each string up to its
    first NUL byte); nothing is dropped although `AddEntry`-style capacity is fixed at the container's size -/
theorem ofPairs_eq (kvs : List (Bytes × Bytes)) : ofPairs kvs = kvs.map fun e => (cstr e.1, cstr e.2) := by
  have h := foldl_add_all (kvs.map fun e => (cstr e.1, cstr e.2)) ⟨kvs.length, []⟩ (by simp)
  rw [List.foldl_map] at h
  unfold ofPairs
  rw [h]
  rfl

theorem ofPairs_printable (kvs : List (Bytes × Bytes)) (h : ∀ e ∈ kvs, Printable e.1 ∧ Printable e.2) : ofPairs kvs = kvs := by
  rw [ofPairs_eq]
  induction kvs with
  | nil => rfl
  | cons e t ih =>
    have he := h e (by simp)
    rw [List.map_cons, cstr_printable _ he.1, cstr_printable _ he.2, ih (fun x hx => h x (by simp [hx]))]

/-- **the round trip holds as well for a baggage built by the container constructor** from round-trippable entries -/
theorem fromHeader_toHeader_ofPairs (kvs : List (Bytes × Bytes)) (h : RoundTrippable kvs) :
    fromHeader (toHeader (ofPairs kvs)) = .ok kvs := by
  rw [ofPairs_printable kvs (fun e he => ⟨(h.1 e he).2.1, (h.1 e he).2.2.1⟩)]
  exact fromHeader_toHeader kvs h

theorem visitLoop_never (es : Entries) (calls : Nat) (seen : Entries) : visitLoop 0 es calls seen = (seen ++ es, true) := by
  induction es generalizing calls seen with
  | nil => simp [visitLoop]
  | cons e t ih =>
    unfold visitLoop
    rw [if_neg (by omega), ih (calls + 1) (seen ++ [e])]
    simp

/-- the callback that declines `d` calls from now gets `d + 1` more entries, if there are that many -/
theorem visitLoop_stop (es : Entries) (d calls : Nat) (seen : Entries) :
    visitLoop (calls + d + 1) es calls seen =
      if d < es.length then (seen ++ es.take (d + 1), false) else (seen ++ es, true) := by
  induction es generalizing d calls seen with
  | nil => rw [visitLoop, List.length_nil, if_neg (Nat.not_lt_zero d), List.append_nil]
  | cons e t ih =>
    cases d with
    | zero => rw [visitLoop, if_pos rfl, List.length_cons, if_pos (Nat.succ_pos _)]; rfl
    | succ d =>
      rw [visitLoop, if_neg (by omega), show calls + (d + 1) + 1 = calls + 1 + d + 1 by omega, ih d,
        List.length_cons, List.append_assoc, List.append_assoc]
      by_cases h : d < t.length
      · rw [if_pos h, if_pos (Nat.succ_lt_succ h)]; rfl
      · rw [if_neg h, if_neg (by omega)]; rfl

/-- **`GetAllEntries` hands over every entry, in order, and reports `true` when the callback never declines** -/
theorem visit_never (es : Entries) : visit es 0 = (es, true) := by
  unfold visit; rw [visitLoop_never]; simp

/-- … **and stops right after the call the callback declines, reporting `false`** -/
theorem visit_stops (es : Entries) (n : Nat) (h1 : 1 ≤ n) (h2 : n ≤ es.length) : visit es n = (es.take n, false) := by
  obtain ⟨d, rfl⟩ : ∃ d, n = 0 + d + 1 := ⟨n - 1, by omega⟩
  rw [visit, visitLoop_stop, if_pos (by omega), Nat.zero_add]; rfl

theorem visit_beyond (es : Entries) (n : Nat) (h : es.length < n) : visit es n = (es, true) := by
  obtain ⟨d, rfl⟩ : ∃ d, n = 0 + d + 1 := ⟨n - 1, by omega⟩
  rw [visit, visitLoop_stop, if_neg (by omega)]; rfl
/-- a built-in propagator's `Fields` with a callback that never declines: every name, in order -/
theorem fieldsOf_never : ∀ (names : List Bytes) (cb : FieldsCb), cb.stopAt = 0 →
    fieldsOf names cb = ({ cb with seen := cb.seen ++ names, calls := cb.calls + names.length }, true)
  | [], cb, _ => by simp [fieldsOf]
  | n :: t, cb, h => by
    have hc : cb.call n = ({ cb with seen := cb.seen ++ [n], calls := cb.calls + 1 }, true) := by
      unfold FieldsCb.call; rw [h]; simp
    unfold fieldsOf
    rw [hc]
    simp only []
    rw [fieldsOf_never t { cb with seen := cb.seen ++ [n], calls := cb.calls + 1 } h]
    simp [Nat.add_assoc, Nat.add_comm 1]

theorem compositeFieldsLoop_never : ∀ (parts : List (List Bytes)) (cb : FieldsCb), cb.stopAt = 0 →
    compositeFieldsLoop parts true cb =
      ({ cb with seen := cb.seen ++ parts.flatten, calls := cb.calls + parts.flatten.length }, true)
  | [], cb, _ => by simp [compositeFieldsLoop]
  | p :: t, cb, h => by
    unfold compositeFieldsLoop
    rw [if_pos rfl, fieldsOf_never p cb h]
    simp only []
    rw [compositeFieldsLoop_never t { cb with seen := cb.seen ++ p, calls := cb.calls + p.length } h]
    simp [Nat.add_assoc]

/-- **`CompositePropagator::Fields` announces the names of every configured propagator, in order** -/
theorem compositeFields_never (parts : List (List Bytes)) (cb : FieldsCb) (h : cb.stopAt = 0) :
    compositeFields parts cb = ({ cb with seen := cb.seen ++ parts.flatten, calls := cb.calls + parts.flatten.length }, true) :=
  compositeFieldsLoop_never parts cb h

/-- once a part has reported `false` no later part is asked and the result is `false` -/
theorem compositeFields_false_sticky : ∀ (parts : List (List Bytes)) (cb : FieldsCb),
    compositeFieldsLoop parts false cb = (cb, false)
  | [], _ => rfl
  | _ :: t, cb => by
    unfold compositeFieldsLoop
    rw [if_neg (by simp)]
    exact compositeFields_false_sticky t cb

/-- `NoOpPropagator` (also the never-set global propagator) changes neither carrier nor context; inside a composite it
    can be dropped -/
theorem noop_identity {Ctx Car : Type} (car : Car) (ctx : Ctx) :
    (noop : Propagator Ctx Car).inject car ctx = car ∧ (noop : Propagator Ctx Car).extract car ctx = ctx := ⟨rfl, rfl⟩

theorem composite_noop_cons {Ctx Car : Type} (empty : Ctx) (ps qs : List (Propagator Ctx Car)) (car : Car) (ctx : Ctx) :
    (composite empty (ps ++ noop :: qs)).inject car ctx = (composite empty (ps ++ qs)).inject car ctx ∧
    (composite empty (ps ++ noop :: qs)).extract car ctx = (composite empty (ps ++ qs)).extract car ctx := by
  simp only [composite_inject_eq_foldl, composite_extract_eq_foldl, List.foldl_append, List.foldl_cons]
  exact ⟨rfl, rfl⟩

/-! ## Non-vacuity -/

/-- `userId=alice`, `server node=A=1,b%+` (written with `+` for the space and `%3D`, `%2C`, `%25`, `%2B`), `k=v;prop=1; p2` (metadata) -/
def exampleBaggage : Entries :=
  [([117,115,101,114,73,100], [97,108,105,99,101]),
   ([115,101,114,118,101,114,32,110,111,100,101], [65,61,49,44,98,37,43]),
   ([107], [118,59,112,114,111,112,61,49,59,32,112,50])]

example : RoundTrippable exampleBaggage := by decide +kernel
example : fromHeader (toHeader exampleBaggage) = .ok exampleBaggage := by decide +kernel
example : RoundTrippableEntry ([32, 61, 44, 37, 43, 59], [126, 32, 59]) := by decide +kernel
example : (run [.set 0 [97] [49], .set 1 [98] [50], .set 2 [97] [51], .delete 3 [98]]) =
    [[], [([97], [49])], [([98], [50]), ([97], [49])], [([97], [51]), ([98], [50])], [([97], [51])]] := by decide +kernel
-- truncated and malformed escapes are refused without a fault: "%4", "%", "%zz", "a%4"
example : urlDecode [37, 52] = .ok none ∧ urlDecode [37] = .ok none ∧ urlDecode [37, 122, 122] = .ok none ∧
    urlDecode [97, 37, 52] = .ok none ∧ urlDecode [37, 52, 49] = .ok (some [65]) := by decide +kernel

end Otel.C15
