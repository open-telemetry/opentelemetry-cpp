import OtelVerif.Model.Context
/-! # C10 — Contexts are immutable values and the runtime context is a per-thread stack

Property theorems about `Model/Context.lean` (which mirrors `context/context.h`, `context/runtime_context.h`,
`trace/scope.h`, `Tracer::GetCurrentSpan`, after `fix: D19`).  Clauses of the property and where they are proved:

* "SetValue/SetValues return a new context in which the new keys shadow older bindings … the most recent binding
  of a key is the one returned": `lookup_eq_most_recent`, `get_set_same`, `get_set_other`, `hasKey_set_same`,
  `setValues_shadow`, `setValues_empty_keeps`, and the refinement to an abstract map
  (`setValue_refines_map`, `setValues_refines_map`).
* "every previously obtained context keeps answering GetValue/HasKey exactly as before": `older_unaffected`
  (for every program), `older_unaffected_answers`, `new_context_fresh`.
* "Attach makes the given context current, detaching a token restores the context that was current before the
  matching Attach (also out of order, which unwinds everything attached above it; a foreign token changes
  nothing) … a context attached more than once is matched most-recent-first": `attach_makes_current`,
  `detach_attach_restores`, `detach_out_of_order_unwinds`, `detach_most_recent_first`, `detach_foreign_noop`,
  `detach_foreign_result`, `detach_eq_spec`, `balanced_restores`, `attach_above_detach_restores`.
* "releasing a Scope re-activates the previously active span": `scope_open_activates_span`,
  `scope_release_restores_span`, `scope_release_after_program`, `scope_nested_release_reactivates`.
* "what one thread attaches is never visible to another": `thread_isolation_step`, `thread_isolation`
  (in the model; that `thread_local` really is per thread is a runtime fact, exercised by the harness).

What an operation, and hence a program, can change is stated once, as `Frame` (`step_frame`, `run_frame`); the
statements about older contexts, other threads' stacks and open scopes are its fields. -/
namespace Otel.C10
open Otel Otel.Context

/-- the bindings a context carries, most recent first -/
def bindings (c : Chain) : List (Bytes × Val) := c.filterMap fun n => n.key.map fun k => (k, n.val)

/-- the most recent binding of `k` in a history of bindings (most recent first); monostate when there is none -/
def mostRecent (k : Bytes) : List (Bytes × Val) → Val
  | [] => .none
  | b :: bs => if b.1 = k then b.2 else mostRecent k bs

/-- a context as an immutable value: a total map from keys to values, monostate = unbound -/
abbrev Map := Bytes → Val
def Map.empty : Map := fun _ => .none
def Map.set (m : Map) (k : Bytes) (v : Val) : Map := fun k' => if k' = k then v else m k'
/-- laying a list of bindings over a map; of two bindings of one key in the list the first listed counts -/
def Map.overlay (m : Map) : List (Bytes × Val) → Map
  | [] => m
  | kv :: kvs => (Map.overlay m kvs).set kv.1 kv.2

def denote : Chain → Map
  | [] => Map.empty
  | n :: r => match n.key with
    | some k => (denote r).set k n.val
    | none => denote r

/-- `GetValue` returns the most recent binding of the key -/
theorem lookup_eq_most_recent (k : Bytes) (c : Chain) : lookup k c = mostRecent k (bindings c) := by
  induction c with
  | nil => rfl
  | cons n r ih =>
    obtain ⟨_ | k', v⟩ := n
    · exact ih
    · simp only [lookup, bindings, List.filterMap_cons, Option.map_some, mostRecent, Option.some.injEq]
      rw [ih]; rfl

theorem lookup_eq_denote (k : Bytes) (c : Chain) : lookup k c = denote c k := by
  induction c with
  | nil => rfl
  | cons n r ih =>
    obtain ⟨_ | k', v⟩ := n
    · exact ih
    · simp only [lookup, denote, Map.set, Option.some.injEq, ih, eq_comm]

theorem denote_nodesOf (kvs : List (Bytes × Val)) (c : Chain) : denote (nodesOf kvs ++ c) = (denote c).overlay kvs := by
  have map : ∀ l : List (Bytes × Val),
      denote (l.map (fun e => (⟨some e.1, e.2⟩ : Node)) ++ c) = (denote c).overlay l := by
    intro l
    induction l with
    | nil => rfl
    | cons kv l ih => simp only [List.map_cons, List.cons_append, denote, Map.overlay, ih]
  cases kvs with
  | nil => rfl
  | cons kv kvs => exact map (kv :: kvs)

theorem chain?_add_new (s : Store) (c : Chain) : (s.add c).1.chain? (s.add c).2 = some c := by
  simp [Store.add, Store.chain?]

theorem chain?_add_old (s : Store) (c : Chain) (id : CtxId) (h : id < s.size) : (s.add c).1.chain? id = s.chain? id :=
  List.getElem?_append_left h

theorem size_add (s : Store) (c : Chain) : (s.add c).1.size = s.size + 1 := by
  simp [Store.add, Store.size]

theorem chain?_lt {s : Store} {id : CtxId} {c : Chain} (h : s.chain? id = some c) : id < s.size :=
  (List.getElem?_eq_some_iff.mp h).1

/-- `SetValue(k, v)` builds the context `SetValues` builds from the one pair -/
theorem setValue_eq_setValues (s : Store) (p : CtxId) (k : Bytes) (v : Val) :
    setValue s p k v = setValues s p [(k, v)] := rfl

theorem setValues_some {s : Store} {p : CtxId} {kvs : List (Bytes × Val)} {s' : Store} {id : CtxId}
    (h : setValues s p kvs = some (s', id)) :
    ∃ cp, s.chain? p = some cp ∧ s' = (s.add (nodesOf kvs ++ cp)).1 ∧ id = (s.add (nodesOf kvs ++ cp)).2 := by
  obtain ⟨cp, hp, hc⟩ := Option.map_eq_some_iff.mp h
  exact ⟨cp, hp, (congrArg Prod.fst hc).symm, (congrArg Prod.snd hc).symm⟩

theorem setValue_some {s : Store} {p : CtxId} {k : Bytes} {v : Val} {s' : Store} {id : CtxId}
    (h : setValue s p k v = some (s', id)) :
    ∃ cp, s.chain? p = some cp ∧ s' = (s.add (⟨some k, v⟩ :: cp)).1 ∧ id = (s.add (⟨some k, v⟩ :: cp)).2 :=
  setValues_some (setValue_eq_setValues s p k v ▸ h)

/-- the key just set answers with the value just set -/
theorem get_set_same {s s' : Store} {p id : CtxId} {k : Bytes} {v : Val} (h : setValue s p k v = some (s', id)) :
    getValue s' id k = some v := by
  obtain ⟨cp, _, rfl, rfl⟩ := setValue_some h
  simp [getValue, chain?_add_new, lookup]

/-- every other key answers as in the parent -/
theorem get_set_other {s s' : Store} {p id : CtxId} {k k' : Bytes} {v : Val} (h : setValue s p k v = some (s', id))
    (hk : k' ≠ k) : getValue s' id k' = getValue s p k' := by
  obtain ⟨cp, hp, rfl, rfl⟩ := setValue_some h
  simp [getValue, chain?_add_new, lookup, hp, hk.symm]

theorem hasKey_set_same {s s' : Store} {p id : CtxId} {k : Bytes} {v : Val} (h : setValue s p k v = some (s', id))
    (hv : v ≠ .none) : (s'.chain? id).map (hasKey k) = some true := by
  obtain ⟨cp, _, rfl, rfl⟩ := setValue_some h
  simp [chain?_add_new, hasKey, lookup, hv]

/-- `SetValues` lays its bindings over the abstract map (nothing for an empty container) -/
theorem setValues_refines_map {s s' : Store} {p id : CtxId} {kvs : List (Bytes × Val)}
    (h : setValues s p kvs = some (s', id)) :
    ∃ cp c', s.chain? p = some cp ∧ s'.chain? id = some c' ∧ denote c' = (denote cp).overlay kvs := by
  obtain ⟨cp, hp, rfl, rfl⟩ := setValues_some h
  exact ⟨cp, _, hp, chain?_add_new _ _, denote_nodesOf kvs cp⟩

/-- `SetValue` is the point update of the abstract map -/
theorem setValue_refines_map {s s' : Store} {p id : CtxId} {k : Bytes} {v : Val} (h : setValue s p k v = some (s', id)) :
    ∃ cp c', s.chain? p = some cp ∧ s'.chain? id = some c' ∧ denote c' = (denote cp).set k v :=
  setValues_refines_map (setValue_eq_setValues s p k v ▸ h)

theorem overlay_apply (m : Map) (kvs : List (Bytes × Val)) (k : Bytes) :
    m.overlay kvs k = match kvs.find? (fun kv => kv.1 == k) with
      | some kv => kv.2
      | none => m k := by
  induction kvs with
  | nil => rfl
  | cons kv kvs ih =>
    by_cases h : kv.1 = k
    · simp [Map.overlay, Map.set, h]
    · simp [Map.overlay, Map.set, h, Ne.symm h, ih]

/-- the keys of a `SetValues` container shadow older bindings (first listed pair of a key), all other keys answer as in
    the parent -/
theorem setValues_shadow {s s' : Store} {p id : CtxId} {kvs : List (Bytes × Val)} (h : setValues s p kvs = some (s', id))
    (k : Bytes) :
    getValue s' id k = match kvs.find? (fun kv => kv.1 == k) with
      | some kv => some kv.2
      | none => getValue s p k := by
  obtain ⟨cp, hp, rfl, rfl⟩ := setValues_some h
  simp only [getValue, chain?_add_new, hp, Option.map_some]
  rw [lookup_eq_denote, denote_nodesOf, overlay_apply, lookup_eq_denote]
  cases kvs.find? (fun kv => kv.1 == k) <;> rfl

/-- D19: an empty container binds nothing — every key, the empty key included, answers as in the parent -/
theorem setValues_empty_keeps {s s' : Store} {p id : CtxId} (h : setValues s p [] = some (s', id)) (k : Bytes) :
    getValue s' id k = getValue s p k :=
  setValues_shadow h k

example : ∃ s' id, setValues Store.init 0 [] = some (s', id) := ⟨_, _, rfl⟩
example : ∃ s' id, setValue Store.init 0 [1] (.i64 7) = some (s', id) ∧ getValue s' id [1] = some (.i64 7) := ⟨_, _, rfl, rfl⟩

/-- a new context gets an identity no earlier context has -/
theorem new_context_fresh {s s' : Store} {p id : CtxId} {k : Bytes} {v : Val} (h : setValue s p k v = some (s', id)) :
    id = s.size ∧ s.chain? id = none ∧ s'.size = s.size + 1 := by
  obtain ⟨cp, _, rfl, rfl⟩ := setValue_some h
  exact ⟨rfl, List.getElem?_eq_none (Nat.le_refl _), size_add _ _⟩

theorem withNew_some {s s' : State} {r : Option (Store × CtxId)} {ob : Obs} (h : s.withNew r = some (s', ob)) :
    ∃ st id, r = some (st, id) ∧ s' = { s with store := st } := by
  obtain ⟨⟨st, id⟩, hr, he⟩ := Option.map_eq_some_iff.mp h
  exact ⟨st, id, hr, (congrArg Prod.fst he).symm⟩

theorem killAt_fst (l : List (CtxId × Bool)) (m j : Nat) (c : CtxId) (b : Bool) (h : l[j]? = some (c, b)) :
    ∃ b', (killAt l m)[j]? = some (c, b') := by
  unfold killAt
  by_cases e : m = j
  · subst e
    refine ⟨false, ?_⟩
    rw [List.getElem?_set_self (List.getElem?_eq_some_iff.mp h).1]
    simp [List.getD_eq_getElem?_getD, h]
  · exact ⟨b, by rw [List.getElem?_set_ne e]; exact h⟩

/-- the shape of the state after one operation: the store is kept or gets one new context, only the executing thread's
    stack is replaced, the scope table is kept, grows at the end, or has one entry closed -/
theorem step_shape {s s' : State} {op : Op} {ob : Obs} (h : step s op = some (s', ob)) :
    (s'.store = s.store ∨ ∃ c, s'.store = (s.store.add c).1) ∧
    (s'.stacks = s.stacks ∨ ∃ stk, s'.stacks = setStack s.stacks op.thread stk) ∧
    (s'.scopes = s.scopes ∨ (∃ x, s'.scopes = s.scopes ++ [x]) ∨ ∃ m, s'.scopes = killAt s.scopes m) := by
  cases op with
  | set t p k v | mk1 t k v | rset t k v p | setm t p kvs | mk t kvs =>
    simp only [step, Option.ite_none_right_eq_some] at h
    obtain ⟨st, id, hr, rfl⟩ := withNew_some h.2
    -- `setValue` and `setValues` alike map the parent's chain to a `Store.add`
    obtain ⟨c, _, hc⟩ := Option.map_eq_some_iff.mp hr
    exact ⟨Or.inr ⟨_, (congrArg Prod.fst hc).symm⟩, Or.inl rfl, Or.inl rfl⟩
  | get t p k | rget t k p | span t =>
    simp only [step, Option.ite_none_right_eq_some, Option.map_eq_some_iff, Prod.mk.injEq] at h
    obtain ⟨_, _, _, rfl, _⟩ := h
    exact ⟨Or.inl rfl, Or.inl rfl, Or.inl rfl⟩
  | cur t | dump t | conc t r =>
    simp only [step, Option.ite_none_right_eq_some, Option.some.injEq, Prod.mk.injEq] at h
    obtain ⟨_, rfl, _⟩ := h
    exact ⟨Or.inl rfl, Or.inl rfl, Or.inl rfl⟩
  | attach t p =>
    simp only [step, Option.ite_none_right_eq_some, Option.some.injEq, Prod.mk.injEq] at h
    obtain ⟨_, rfl, _⟩ := h
    exact ⟨Or.inl rfl, Or.inr ⟨_, rfl⟩, Or.inl rfl⟩
  | detach t m | drop t m =>
    simp only [step, Option.ite_none_right_eq_some] at h
    obtain ⟨_, h⟩ := h
    split at h <;> cases h
    exact ⟨Or.inl rfl, Or.inr ⟨_, rfl⟩, Or.inl rfl⟩
  | scope t i =>
    simp only [step, Option.ite_none_right_eq_some, Option.map_eq_some_iff] at h
    obtain ⟨_, ⟨st, id⟩, hv, he⟩ := h
    cases he
    obtain ⟨c, _, hc⟩ := Option.map_eq_some_iff.mp hv
    exact ⟨Or.inr ⟨_, (congrArg Prod.fst hc).symm⟩, Or.inr ⟨_, rfl⟩, Or.inr (Or.inl ⟨_, rfl⟩)⟩
  | close t j =>
    simp only [step, Option.ite_none_right_eq_some] at h
    obtain ⟨_, h⟩ := h
    split at h <;> cases h
    exact ⟨Or.inl rfl, Or.inr ⟨_, rfl⟩, Or.inr (Or.inr ⟨_, rfl⟩)⟩

/-- the footprint of operations executed by the threads in `T`: the store only grows and every existing context keeps its
    chain; the stacks of all other threads are untouched; a scope keeps the context it attached (it can only be closed) -/
structure Frame (T : Nat → Prop) (s s' : State) : Prop where
  size : s.store.size ≤ s'.store.size
  chain : ∀ id, id < s.store.size → s'.store.chain? id = s.store.chain? id
  stacks : ∀ u, ¬ T u → s'.stacks u = s.stacks u
  scopes : ∀ (j : Nat) (c : CtxId) (b : Bool), s.scopes[j]? = some (c, b) → ∃ b', s'.scopes[j]? = some (c, b')

theorem Frame.refl {T : Nat → Prop} {s : State} : Frame T s s :=
  ⟨Nat.le_refl _, fun _ _ => rfl, fun _ _ => rfl, fun _ _ b h => ⟨b, h⟩⟩

theorem Frame.trans {T : Nat → Prop} {a b c : State} (h1 : Frame T a b) (h2 : Frame T b c) : Frame T a c where
  size := Nat.le_trans h1.size h2.size
  chain id hid := by rw [h2.chain id (Nat.lt_of_lt_of_le hid h1.size), h1.chain id hid]
  stacks u hu := by rw [h2.stacks u hu, h1.stacks u hu]
  scopes j x b hj := by obtain ⟨b1, h⟩ := h1.scopes j x b hj; exact h2.scopes j x b1 h

theorem Frame.mono {T T' : Nat → Prop} {s s' : State} (f : Frame T s s') (h : ∀ u, T u → T' u) : Frame T' s s' :=
  { f with stacks := fun u hu => f.stacks u fun t => hu (h u t) }

theorem step_frame {s s' : State} {op : Op} {ob : Obs} (h : step s op = some (s', ob)) : Frame (· = op.thread) s s' := by
  obtain ⟨hst, hstk, hsc⟩ := step_shape h
  refine ⟨?_, ?_, fun u hu => ?_, fun j c b hj => ?_⟩
  · rcases hst with e | ⟨c, e⟩ <;> rw [e]
    · exact Nat.le_refl _
    · rw [size_add]; exact Nat.le_succ _
  · rcases hst with e | ⟨c, e⟩ <;> rw [e]
    · exact fun _ _ => rfl
    · exact chain?_add_old _ _
  · rcases hstk with e | ⟨stk, e⟩ <;> rw [e]
    exact if_neg hu
  · rcases hsc with e | ⟨x, e⟩ | ⟨m, e⟩ <;> rw [e]
    · exact ⟨b, hj⟩
    · exact ⟨b, by rw [List.getElem?_append_left (List.getElem?_eq_some_iff.mp hj).1]; exact hj⟩
    · exact killAt_fst _ m j c b hj

/-- one operation — of any kind, by any thread — leaves every existing context exactly as it was -/
theorem older_unaffected_step {s s' : State} {op : Op} {ob : Obs} (h : step s op = some (s', ob)) :
    s.store.size ≤ s'.store.size ∧ ∀ id, id < s.store.size → s'.store.chain? id = s.store.chain? id :=
  ⟨(step_frame h).size, (step_frame h).chain⟩

theorem run_cons {s s'' : State} {o : Op} {os : List Op} {obs : List Obs} (h : run s (o :: os) = some (s'', obs)) :
    ∃ s' ob obs', step s o = some (s', ob) ∧ run s' os = some (s'', obs') ∧ obs = ob :: obs' := by
  simp only [run] at h
  split at h
  · cases h
  · rename_i s' ob h1
    split at h
    · cases h
    · rename_i obs' h2
      cases h
      exact ⟨s', ob, obs', h1, h2, rfl⟩

theorem run_frame : ∀ {ops : List Op} {s s' : State} {obs : List Obs}, run s ops = some (s', obs) →
    Frame (fun u => ∃ op ∈ ops, u = op.thread) s s' := by
  intro ops
  induction ops with
  | nil => intro s s' obs h; cases h; exact Frame.refl
  | cons o os ih =>
    intro s s' obs h
    obtain ⟨s1, ob, obs', h1, h2, _⟩ := run_cons h
    exact ((step_frame h1).mono fun u e => ⟨o, List.mem_cons_self, e⟩).trans
      ((ih h2).mono fun u ⟨op, hm, e⟩ => ⟨op, List.mem_cons_of_mem _ hm, e⟩)

/-- **every previously obtained context keeps its content after any program whatsoever** -/
theorem older_unaffected : ∀ (ops : List Op) (s s' : State) (obs : List Obs), run s ops = some (s', obs) →
    s.store.size ≤ s'.store.size ∧ ∀ id, id < s.store.size → s'.store.chain? id = s.store.chain? id :=
  fun _ _ _ _ h => ⟨(run_frame h).size, (run_frame h).chain⟩

/-- … hence answers `GetValue` and `HasKey` exactly as before, for every key -/
theorem older_unaffected_answers {ops : List Op} {s s' : State} {obs : List Obs} (h : run s ops = some (s', obs))
    (id : CtxId) (hid : id < s.store.size) (k : Bytes) :
    getValue s'.store id k = getValue s.store id k ∧
    (s'.store.chain? id).map (hasKey k) = (s.store.chain? id).map (hasKey k) := by
  simp [getValue, (run_frame h).chain id hid]

theorem popThrough_append {above : Stack} {c : CtxId} (h : c ∉ above) (below : Stack) :
    popThrough c (above ++ c :: below) = below := by
  induction above with
  | nil => simp [popThrough]
  | cons a as ih =>
    rw [List.mem_cons, not_or] at h
    simp [popThrough, Ne.symm h.1, ih h.2]

/-- out of order: everything attached above the token's context is unwound with it -/
theorem detach_out_of_order_unwinds (above below : Stack) (c : CtxId) (h : c ∉ above) :
    detach (above ++ c :: below) c = (below, true) := by
  cases above with
  | nil => simp [detach, top]
  | cons a as =>
    have ha : c ≠ a := fun e => h (e ▸ List.mem_cons_self)
    simp only [detach, top, List.cons_append, List.headD_cons, ha, if_false]
    rw [← List.cons_append, popThrough_append h]
    simp

/-- detaching the token of the latest `Attach` restores exactly the stack (hence the current context) from before it -/
theorem detach_attach_restores (s : Stack) (c : CtxId) : detach (attach s c) c = (s, true) :=
  detach_out_of_order_unwinds [] s c List.not_mem_nil

/-- a context attached more than once is matched most-recent-first: the older attachment stays -/
theorem detach_most_recent_first (above mid below : Stack) (c : CtxId) (h : c ∉ above) :
    detach (above ++ c :: (mid ++ c :: below)) c = (mid ++ c :: below, true) :=
  detach_out_of_order_unwinds above (mid ++ c :: below) c h

/-- `Attach` makes the given context the current one -/
theorem attach_makes_current (s : Stack) (c : CtxId) : top (attach s c) = c := rfl

/-- spec of `Detach`: cut the stack at the most recent occurrence of the token's context (it and everything above
    it go); a context that is not on the stack changes nothing -/
def specDetach (s : Stack) (tok : CtxId) : Stack × Bool :=
  if tok ∈ s then ((s.dropWhile (· ≠ tok)).drop 1, true) else (s, s.isEmpty && tok == 0)

theorem popThrough_eq (tok : CtxId) (s : Stack) : popThrough tok s = (s.dropWhile (· ≠ tok)).drop 1 := by
  induction s with
  | nil => rfl
  | cons c r ih => by_cases h : c = tok <;> simp [popThrough, h, List.dropWhile, ih]

theorem detach_eq_spec (s : Stack) (tok : CtxId) : detach s tok = specDetach s tok := by
  unfold detach specDetach
  cases s with
  | nil => by_cases h : tok = 0 <;> simp [top, h]
  | cons c r =>
    by_cases h : tok = c
    · subst h; simp [top]
    · by_cases hm : tok ∈ r <;> simp [top, h, hm, popThrough_eq]

/-- a foreign token (its context is not on this thread's stack) changes nothing and is refused, except for the default
    context on an empty stack (`Top()` of an empty stack *is* the default context, so that `Detach` "succeeds" without
    effect) -/
theorem detach_foreign {s : Stack} {c : CtxId} (h : c ∉ s) : detach s c = (s, s.isEmpty && c == 0) := by
  rw [detach_eq_spec, specDetach, if_neg h]

theorem detach_foreign_noop (s : Stack) (c : CtxId) (h : c ∉ s) : (detach s c).1 = s :=
  congrArg Prod.fst (detach_foreign h)

theorem detach_foreign_result (s : Stack) (c : CtxId) (h : c ∉ s) : (detach s c).2 = (s.isEmpty && c == 0) :=
  congrArg Prod.snd (detach_foreign h)

example : detach [5, 3, 5, 1] 5 = ([3, 5, 1], true) := by decide
example : detach [4, 3, 5, 1] 5 = ([1], true) := by decide
example : detach [4, 3] 5 = ([4, 3], false) := by decide

inductive SOp where
  | attach (c : CtxId)
  | detach (c : CtxId)

/-- run a thread's attach/detach sequence; collects what every `Detach` returned -/
def srun (s : Stack) : List SOp → Stack × List Bool
  | [] => (s, [])
  | .attach c :: os => srun (attach s c) os
  | .detach c :: os => let r := detach s c; let q := srun r.1 os; (q.1, r.2 :: q.2)

/-- properly nested attach … detach pairs (any depth, any contexts, repeats allowed) -/
inductive Balanced : List SOp → Prop
  | nil : Balanced []
  | wrap (c : CtxId) {inner rest : List SOp} : Balanced inner → Balanced rest →
      Balanced (.attach c :: (inner ++ .detach c :: rest))

theorem srun_append (s : Stack) (a b : List SOp) :
    srun s (a ++ b) = ((srun (srun s a).1 b).1, (srun s a).2 ++ (srun (srun s a).1 b).2) := by
  induction a generalizing s with
  | nil => rfl
  | cons o os ih => cases o <;> simp [srun, ih]

/-- a properly nested program restores the stack it started from, and every `Detach` in it succeeds -/
theorem balanced_restores {ops : List SOp} (h : Balanced ops) : ∀ s, (srun s ops).1 = s ∧ ∀ b ∈ (srun s ops).2, b = true := by
  induction h with
  | nil => intro s; simp [srun]
  | wrap c _ _ ih1 ih2 =>
    intro s
    simp only [srun, srun_append]
    obtain ⟨i1, i2⟩ := ih1 (attach s c)
    rw [i1, detach_attach_restores]
    obtain ⟨r1, r2⟩ := ih2 s
    refine ⟨r1, fun b hb => ?_⟩
    simp only [List.mem_append, List.mem_cons] at hb
    rcases hb with hb | hb | hb
    · exact i2 b hb
    · exact hb
    · exact r2 b hb

/-- what may run between an `Attach c` and the out-of-order detach of its token without touching the attachment:
    further attaches of other contexts that are never detached, and properly nested blocks -/
inductive Above (c : CtxId) : List SOp → Prop
  | nil : Above c []
  | push (d : CtxId) {rest : List SOp} : d ≠ c → Above c rest → Above c (.attach d :: rest)
  | block {b rest : List SOp} : Balanced b → Above c rest → Above c (b ++ rest)

theorem above_run {c : CtxId} {ops : List SOp} (h : Above c ops) :
    ∀ s, ∃ above, c ∉ above ∧ (srun s ops).1 = above ++ s := by
  induction h with
  | nil => exact fun s => ⟨[], List.not_mem_nil, rfl⟩
  | push d hd _ ih =>
    intro s
    obtain ⟨ab, h1, h2⟩ := ih (attach s d)
    refine ⟨ab ++ [d], ?_, ?_⟩
    · simp only [List.mem_append, List.mem_singleton, not_or]; exact ⟨h1, hd.symm⟩
    · rw [List.append_assoc]; exact h2
  | block hb _ ih =>
    intro s
    rw [srun_append, (balanced_restores hb s).1]
    exact ih s

/-- **detaching a token restores the context that was current before the matching Attach**, also when other contexts
    were attached above it in the meantime and never detached: they are unwound with it -/
theorem attach_above_detach_restores {c : CtxId} {between : List SOp} (h : Above c between) (s : Stack) :
    (srun s (.attach c :: (between ++ [.detach c]))).1 = s ∧
    (srun s (.attach c :: (between ++ [.detach c]))).2.getLast? = some true := by
  obtain ⟨ab, h1, h2⟩ := above_run h (attach s c)
  simp only [attach] at h2
  simp only [srun, srun_append, attach, h2]
  rw [detach_out_of_order_unwinds ab s c h1]
  simp

example : Above 7 [.attach 1, .attach 2, .detach 2, .attach 3] :=
  .push 1 (by decide) (.block (b := [.attach 2, .detach 2]) (.wrap 2 (inner := []) (rest := []) .nil .nil) (.push 3 (by decide) .nil))

theorem setStack_self (f : Nat → Stack) (t : Nat) (st : Stack) : setStack f t st t = st := if_pos rfl

/-- `RuntimeContext::Attach` in a program: the executing thread's stack gets the context pushed, a new token is handed out -/
theorem step_attach_stack {s s' : State} {t p : Nat} {ob : Obs} (h : step s (.attach t p) = some (s', ob)) :
    s'.stacks t = attach (s.stacks t) p ∧ top (s'.stacks t) = p ∧ ob = .token s.toks.length ∧
    s'.toks = s.toks ++ [(p, true)] := by
  simp only [step, Option.ite_none_right_eq_some, Option.some.injEq, Prod.mk.injEq] at h
  obtain ⟨_, rfl, rfl⟩ := h
  exact ⟨setStack_self _ _ _, congrArg top (setStack_self _ _ _), rfl, rfl⟩

/-- `RuntimeContext::Detach(token)` in a program: the stack and the returned flag are `detach` of the token's context -/
theorem step_detach_stack {s s' : State} {t m : Nat} {ob : Obs} (h : step s (.detach t m) = some (s', ob)) :
    ∃ c, s.toks[m]? = some (c, true) ∧ s'.stacks t = (detach (s.stacks t) c).1 ∧ ob = .flag (detach (s.stacks t) c).2 := by
  simp only [step, Option.ite_none_right_eq_some] at h
  obtain ⟨_, h⟩ := h
  split at h <;> cases h
  rename_i c hc
  exact ⟨c, hc, setStack_self _ _ _, rfl⟩

/-- destroying a token (`~Token`) detaches it -/
theorem step_drop_stack {s s' : State} {t m : Nat} {ob : Obs} (h : step s (.drop t m) = some (s', ob)) :
    ∃ c, s.toks[m]? = some (c, true) ∧ s'.stacks t = (detach (s.stacks t) c).1 := by
  simp only [step, Option.ite_none_right_eq_some] at h
  obtain ⟨_, h⟩ := h
  split at h <;> cases h
  rename_i c hc
  exact ⟨c, hc, setStack_self _ _ _⟩

/-- attach then detach of the token just obtained, as program steps: the stack (hence `GetCurrent()`) is restored -/
theorem program_attach_detach_restores {s s1 s2 : State} {t p : Nat} {ob1 ob2 : Obs}
    (h1 : step s (.attach t p) = some (s1, ob1)) (h2 : step s1 (.detach t s.toks.length) = some (s2, ob2)) :
    s2.stacks t = s.stacks t ∧ ob2 = .flag true := by
  obtain ⟨a1, _, _, a4⟩ := step_attach_stack h1
  obtain ⟨c, c1, c2, c3⟩ := step_detach_stack h2
  rw [a4, List.getElem?_concat_length] at c1
  cases c1
  rw [a1, detach_attach_restores] at c2 c3
  exact ⟨c2, c3⟩

/-- the key is the literal `"active_span"` -/
theorem ctxSpanKey_eq : Gen.ctxSpanKey = [97, 99, 116, 105, 118, 101, 95, 115, 112, 97, 110] := by decide

/-- the observation of `Tracer::GetCurrentSpan()` on thread `t` -/
def currentSpan (s : State) (t : Nat) : Option (Option Nat) := (s.store.chain? (top (s.stacks t))).map spanOf

theorem scope_step {s s1 : State} {t i j : Nat} {id : CtxId} (h : step s (.scope t i) = some (s1, .scope j id)) :
    setValue s.store (top (s.stacks t)) Gen.ctxSpanKey (.span i) = some (s1.store, id) ∧
    s1.stacks t = id :: s.stacks t ∧ s1.scopes = s.scopes ++ [(id, true)] ∧ j = s.scopes.length := by
  simp only [step, Option.ite_none_right_eq_some, Option.map_eq_some_iff] at h
  obtain ⟨_, ⟨st, id'⟩, hv, he⟩ := h
  cases he
  exact ⟨hv, setStack_self _ _ _, rfl, rfl⟩

/-- closing a scope detaches the context it attached -/
theorem step_close_stack {s s' : State} {t j : Nat} {ob : Obs} (h : step s (.close t j) = some (s', ob)) :
    ∃ c, s.scopes[j]? = some (c, true) ∧ s'.stacks t = (detach (s.stacks t) c).1 ∧ s'.store = s.store := by
  simp only [step, Option.ite_none_right_eq_some] at h
  obtain ⟨_, h⟩ := h
  split at h <;> cases h
  rename_i c hc
  exact ⟨c, hc, setStack_self _ _ _, rfl⟩

/-- opening a `Scope` makes its span the active one -/
theorem scope_open_activates_span {s s1 : State} {t i j : Nat} {id : CtxId}
    (h : step s (.scope t i) = some (s1, .scope j id)) : currentSpan s1 t = some (some i) := by
  obtain ⟨hv, hs, _⟩ := scope_step h
  obtain ⟨cp, _, hst, rfl⟩ := setValue_some hv
  simp [currentSpan, hs, top, hst, chain?_add_new, spanOf, lookup]

/-- **releasing a Scope re-activates the previously active span**: whatever was attached above the scope's context in
    the meantime (`above`), the release unwinds to the stack from before the scope was opened, and — because older
    contexts are unaffected by everything that happened since (`later` is any store the program went on to) — the
    active span is again the one from before -/
theorem scope_release_restores_span {s s1 : State} {t i j : Nat} {id : CtxId}
    (h : step s (.scope t i) = some (s1, .scope j id)) (above : Stack) (habove : id ∉ above) :
    detach (above ++ s1.stacks t) id = (s.stacks t, true) ∧
    ∀ later : Store, (∀ x, x < s.store.size → later.chain? x = s.store.chain? x) →
      (later.chain? (top (s.stacks t))).map spanOf = currentSpan s t := by
  obtain ⟨hv, hs, _⟩ := scope_step h
  obtain ⟨cp, hp, _⟩ := setValue_some hv
  exact ⟨hs ▸ detach_out_of_order_unwinds above (s.stacks t) id habove,
    fun later hl => by rw [currentSpan, hl _ (chain?_lt hp)]⟩

example : ∃ s1 j id, step (State.init 1) (.scope 0 2) = some (s1, .scope j id) := ⟨_, _, _, rfl⟩

/-- **releasing a Scope re-activates the previously active span — after any program**: open a scope, let the threads
    run *any* operations (`ops`); if the scope's attachment is still on its thread's stack (`above ++ id :: …`, i.e. no
    detach reached below it), closing the scope — also out of order, with other attachments above it — restores the
    stack from before the scope was opened and `GetCurrentSpan()` answers what it answered then -/
theorem scope_release_after_program {s s1 s2 s3 : State} {t i j : Nat} {id : CtxId} {ops : List Op} {obs : List Obs}
    {ob : Obs} {above : Stack}
    (hopen : step s (.scope t i) = some (s1, .scope j id)) (hrun : run s1 ops = some (s2, obs))
    (hshape : s2.stacks t = above ++ id :: s.stacks t) (habove : id ∉ above)
    (hclose : step s2 (.close t j) = some (s3, ob)) :
    s3.stacks t = s.stacks t ∧ currentSpan s3 t = currentSpan s t := by
  obtain ⟨_, hs, hsc, rfl⟩ := scope_step hopen
  obtain ⟨hdet, hspan⟩ := scope_release_restores_span hopen above habove
  have f : Frame (fun _ => True) s s2 :=
    ((step_frame hopen).mono fun _ _ => trivial).trans ((run_frame hrun).mono fun _ _ => trivial)
  -- the scope's table entry still names `id` when it is closed
  obtain ⟨b, hj⟩ := (run_frame hrun).scopes _ id true (by rw [hsc, List.getElem?_concat_length])
  obtain ⟨c, hc, hstk, hstore⟩ := step_close_stack hclose
  rw [hj] at hc
  cases hc
  rw [hs, ← hshape] at hdet
  rw [hdet] at hstk
  exact ⟨hstk, by rw [currentSpan, hstk, hstore]; exact hspan _ f.chain⟩

/-- nested scopes, program level: open `i1`, open `i2`, release the inner one — the active span is `i1` again -/
theorem scope_nested_release_reactivates {s s1 s2 s3 : State} {t i1 i2 j1 j2 : Nat} {id1 id2 : CtxId} {ob : Obs}
    (h1 : step s (.scope t i1) = some (s1, .scope j1 id1)) (h2 : step s1 (.scope t i2) = some (s2, .scope j2 id2))
    (h3 : step s2 (.close t j2) = some (s3, ob)) :
    s3.stacks t = s1.stacks t ∧ currentSpan s3 t = some (some i1) := by
  rw [← scope_open_activates_span h1]
  exact scope_release_after_program (ops := []) (above := []) h2 rfl (scope_step h2).2.1 List.not_mem_nil h3

example : ∃ s1 s2 s3 obs ob, step (State.init 1) (.scope 0 2) = some (s1, .scope 0 1) ∧
    run s1 [.set 0 0 [1] (.i64 1), .attach 0 2, .scope 0 3] = some (s2, obs) ∧ s2.stacks 0 = [3, 2] ++ 1 :: [] ∧
    step s2 (.close 0 0) = some (s3, ob) ∧ s3.stacks 0 = [] := ⟨_, _, _, _, _, rfl, rfl, rfl, rfl, rfl⟩

/-- an operation of thread `t` changes only thread `t`'s stack -/
theorem thread_isolation_step {s s' : State} {op : Op} {ob : Obs} (h : step s op = some (s', ob)) (u : Nat)
    (hu : u ≠ op.thread) : s'.stacks u = s.stacks u :=
  (step_frame h).stacks u hu

/-- **what other threads do — any program of theirs — is never visible on thread `u`'s stack** -/
theorem thread_isolation : ∀ (ops : List Op) (s s' : State) (obs : List Obs) (u : Nat), run s ops = some (s', obs) →
    (∀ op ∈ ops, op.thread ≠ u) → s'.stacks u = s.stacks u :=
  fun _ _ _ _ u h hu => (run_frame h).stacks u fun ⟨op, hm, e⟩ => hu op hm e.symm

example : ∃ s' obs, run (State.init 2) [.set 0 0 [1] (.i64 1), .attach 0 1, .attach 1 1, .detach 1 0] = some (s', obs) ∧
    s'.stacks 0 = [1] ∧ s'.stacks 1 = [] := ⟨_, _, rfl, rfl, rfl⟩

end Otel.C10
