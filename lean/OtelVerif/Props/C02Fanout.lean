import OtelVerif.Model.Fanout
/-! # C02, the fan-out clause — ForceFlush / Shutdown through the provider

"When ForceFlush … on the provider that owns them returns true, everything … has been passed to the exporter's Export and
the exporter's own ForceFlush has been invoked.  Shutdown of a batch processor (directly, **through its provider**, or by
destruction) … shuts the exporter down exactly once however many times … it is requested, and after it returns no
exporter call is made and later … ForceFlush/Shutdown calls return promptly without effect."

The batch processors themselves are `Otel.C02` (`flush_complete`, `exporter_shutdown_at_most_once`, `shutdown_returned`,
`late_forceflush_returns_false`, `late_shutdown_is_noop`): the `batch` child of `Model/Fanout.lean` is their summary for one
sequential caller.  Here: the layers above, for **every** list of children, every script of child results and every
sequence of provider-level calls.

Which layer latches what (read from the code, proved below):
* `TracerProvider`, `TracerContext`, `MultiSpanProcessor`, `LoggerProvider`, `LoggerContext`, `MultiLogRecordProcessor`
  have **no** latch: every `Shutdown` (and each destructor, some of them twice) reaches every child again
  (`no_layer_latch_witness`).  "Exactly once" at the exporter is provided by the child's own latch: `is_shutdown` of the
  batch processors, `shutdown_latch_` / `is_shutdown_` of the simple processors (`child_inv_run`,
  `exporter_shutdown_exactly_once_through_provider`).
* `MeterContext::shutdown_latch_` is the only latch in a fan-out layer (`meter_shutdown_once`); `MetricReader::Shutdown`
  itself does not latch (`reader_shutdown_not_latched_witness`) and `MetricReader::Collect` is not refused after
  `Shutdown` (`reader_collect_after_shutdown_not_refused`). -/
namespace Otel.C02.Fanout
open Otel.Fanout


inductive PW (R : Child → Child → Prop) : List Child → List Child → Prop
  | nil : PW R [] []
  | cons {c c' : Child} {cs cs' : List Child} : R c c' → PW R cs cs' → PW R (c :: cs) (c' :: cs')

theorem PW.length_eq {R} {a b : List Child} (h : PW R a b) : a.length = b.length := by
  induction h with
  | nil => rfl
  | cons _ _ ih => simp [ih]

theorem PW.mono {R S : Child → Child → Prop} (hRS : ∀ c c', R c c' → S c c') {a b : List Child} (h : PW R a b) : PW S a b := by
  induction h with
  | nil => exact .nil
  | cons h1 _ ih => exact .cons (hRS _ _ h1) ih

theorem PW.refl {R : Child → Child → Prop} (hR : ∀ c, R c c) (a : List Child) : PW R a a := by
  induction a with
  | nil => exact .nil
  | cons c cs ih => exact .cons (hR c) ih

/-- the i-th child after is related to the i-th child before -/
theorem PW.get {R} {a b : List Child} (h : PW R a b) : ∀ (i : Nat) (ha : i < a.length) (hb : i < b.length), R a[i] b[i] := by
  induction h with
  | nil => intro i ha; simp at ha
  | cons r _ ih =>
    intro i ha hb
    cases i with
    | zero => exact r
    | succ j => exact ih j (by simpa using ha) (by simpa using hb)

/-- what holds of every child before and is carried by the relation holds of every child after -/
theorem PW.forall_mem {R} {P Q : Child → Prop} (hPQ : ∀ c c', R c c' → P c → Q c') {a b : List Child} (h : PW R a b)
    (hP : ∀ c ∈ a, P c) : ∀ c' ∈ b, Q c' := by
  induction h with
  | nil => intro c' hc; cases hc
  | cons r _ ih =>
    intro c' hc
    rcases List.mem_cons.mp hc with rfl | hc
    · exact hPQ _ _ r (hP _ (List.mem_cons_self ..))
    · exact ih (fun c hc' => hP c (List.mem_cons_of_mem _ hc')) c' hc


/-- the fold lemma: every child is called exactly once — the i-th child after is the i-th child before after one call —
    so whatever relation `R` each single call establishes holds child by child; the proof of `R` may use that the call
    returned true if the whole fold did -/
theorem fold_pw (call : Child → TC → Out) (p : Policy) (k : Clock) (i : Nat) (cs : List Child) {R : Child → Child → Prop}
    (hR : ∀ c tc, ((foldAll call p k i cs).2.1 = true → (call c tc).res = true) → R c (call c tc).child) :
    PW R cs (foldAll call p k i cs).1 := by
  induction cs generalizing k i with
  | nil => exact .nil
  | cons c cs ih =>
    refine .cons (hR _ _ fun h => ?_) (ih _ _ fun c tc hc => hR c tc fun h => hc ?_)
    all_goals simp only [foldAll, Bool.and_eq_true] at h
    · exact h.1
    · exact h.2

/-- **every fold calls every child** -/
theorem fold_calls_every_child (call : Child → TC → Out) (p : Policy) (k : Clock) (i : Nat) (cs : List Child) :
    PW (fun c c' => ∃ tc, c' = (call c tc).child) cs (foldAll call p k i cs).1 :=
  fold_pw call p k i cs fun _ tc _ => ⟨tc, rfl⟩

/-- **the result of a fold is the conjunction of the children's results** -/
theorem fold_result (call : Child → TC → Out) (hres : ∀ c tc tc', (call c tc).res = (call c tc').res)
    (p : Policy) (k : Clock) (i : Nat) (cs : List Child) :
    (foldAll call p k i cs).2.1 = cs.all (fun c => (call c .max).res) := by
  induction cs generalizing k i with
  | nil => rfl
  | cons c cs ih => simp only [foldAll, ih, List.all_cons, hres c (k.tc p) .max]

/-- every event of a fold is an event of one child's call -/
theorem fold_events (call : Child → TC → Out) (p : Policy) (k : Clock) (i : Nat) (cs : List Child) {Q : CEv → Prop}
    (h : ∀ c ∈ cs, ∀ tc, ∀ e ∈ (call c tc).evs, Q e) : ∀ e ∈ (foldAll call p k i cs).2.2, Q e.2 := by
  induction cs generalizing k i with
  | nil => intro e he; cases he
  | cons c cs ih =>
    simp only [foldAll, List.mem_append, List.mem_map]
    rintro e (⟨x, hx, rfl⟩ | h2)
    · exact h c (List.mem_cons_self ..) _ x hx
    · exact ih _ _ (fun c' hc' => h c' (List.mem_cons_of_mem _ hc')) e h2

/-- **the children are served in list order**: the events of a fold, read by child number, never go back -/
theorem fold_in_order (call : Child → TC → Out) (p : Policy) (k : Clock) (i : Nat) (cs : List Child) :
    (∀ e ∈ (foldAll call p k i cs).2.2, i ≤ e.1) ∧ ((foldAll call p k i cs).2.2.map (·.1)).Pairwise (· ≤ ·) := by
  induction cs generalizing k i with
  | nil => exact ⟨fun e he => (by cases he), List.Pairwise.nil⟩
  | cons c cs ih =>
    obtain ⟨h1, h2⟩ := ih (k.tick (call c (k.tc p)).slow) (i + 1)
    simp only [foldAll, List.mem_append, List.mem_map, List.map_append, List.map_map, List.pairwise_append]
    -- the head's events all carry `i`, the tail's `i + 1` or more
    refine ⟨?_, List.pairwise_map.mpr (List.pairwise_of_forall fun _ _ => Nat.le_refl i), h2, ?_⟩
    · rintro e (⟨x, _, rfl⟩ | h)
      · exact Nat.le_refl _
      · exact Nat.le_of_succ_le (h1 e h)
    · rintro _ ⟨x, _, rfl⟩ _ ⟨e, he, rfl⟩
      exact Nat.le_of_succ_le (h1 e he)

/-- **the events a fold reports for child `j` are exactly the events of that child's one call** (this is what ties the
    canonical line the driver prints, and the harness reproduces, to the children's own logs the theorems speak about) -/
theorem fold_events_of_child (call : Child → TC → Out) (p : Policy) (k : Clock) (i : Nat) (cs : List Child) :
    ∀ (j : Nat) (h : j < cs.length), ∃ tc,
      ((foldAll call p k i cs).2.2.filter (fun e => e.1 == i + j)).map (·.2) = (call cs[j] tc).evs := by
  induction cs generalizing k i with
  | nil => intro j h; simp at h
  | cons c cs ih =>
    intro j h
    simp only [foldAll, List.filter_append, List.map_append, List.filter_map, List.map_map]
    cases j with
    | zero =>
      -- number `i` is the head's; the tail's events are numbered from `i + 1`
      have h2 : ((foldAll call p (k.tick (call c (k.tc p)).slow) (i + 1) cs).2.2).filter (fun e => e.1 == i + 0) = [] := by
        rw [List.filter_eq_nil_iff]; intro e he
        have := (fold_in_order call p _ (i + 1) cs).1 e he
        simp; omega
      exact ⟨k.tc p, by rw [h2]; simp [Function.comp_def]⟩
    | succ j =>
      obtain ⟨tc, htc⟩ := ih (k.tick (call c (k.tc p)).slow) (i + 1) j (by simpa using h)
      have h2 : i + (j + 1) = i + 1 + j := by omega
      exact ⟨tc, by rw [h2, htc]; simp [Function.comp_def]; omega⟩


/-- the kinds whose exporter `Shutdown` sits behind the child's own latch -/
def Latching (c : Child) : Prop := c.kind = .simpleSpan ∨ c.kind = .simpleLog ∨ c.kind = .batch

instance (c : Child) : Decidable (Latching c) := by unfold Latching; infer_instance

-- every fact about one call at one child is by these ten cases: the kind (5) and the latch (2), which decide every `match`
-- and `if` of `Child.flush` … `Child.dtor`; the child's fields are named `k fs ss l q lg`
macro "child_cases " c:ident : tactic =>
  `(tactic| (rcases $c:ident with ⟨k, fs, ss, l, q, lg⟩; cases k <;> cases l))

/-- the records a batch child hands to `Export` first are the only events of a call that are not written out -/
theorem countP_drainEvs (p : CEv → Bool) (hp : ∀ n, p (.xExport n) = false) (c : Child) : (drainEvs c).countP p = 0 := by
  unfold drainEvs; split
  · rfl
  · simp [hp]

theorem flush_res_indep (c : Child) (tc tc' : TC) : (c.flush tc).res = (c.flush tc').res := by
  child_cases c <;> rfl

theorem shutdown_res_indep (c : Child) (tc tc' : TC) : (c.shutdown tc).res = (c.shutdown tc').res := by
  child_cases c <;> rfl

theorem flush_log (c : Child) (tc : TC) : (c.flush tc).child.log = c.log ++ (c.flush tc).evs := by
  child_cases c <;> rfl

theorem shutdown_log (c : Child) (tc : TC) : (c.shutdown tc).child.log = c.log ++ (c.shutdown tc).evs := by
  child_cases c <;> rfl

/-- the call is in the child's log with the result it returned, once -/
theorem flush_logged (c : Child) (tc : TC) :
    CEv.flush tc (c.flush tc).res ∈ (c.flush tc).evs ∧ (c.flush tc).evs.countP CEv.isFlush = 1 := by
  have hd := countP_drainEvs CEv.isFlush fun _ => rfl
  child_cases c <;> simp [Child.flush, hd, List.countP_cons, CEv.isFlush]

theorem shutdown_logged (c : Child) (tc : TC) :
    CEv.shutdown tc (c.shutdown tc).res ∈ (c.shutdown tc).evs ∧ (c.shutdown tc).evs.countP CEv.isShutdown = 1 := by
  have hd := countP_drainEvs CEv.isShutdown fun _ => rfl
  child_cases c <;> simp [Child.shutdown, hd, List.countP_cons, CEv.isShutdown]

theorem nFlush_flush (c : Child) (tc : TC) : (c.flush tc).child.nFlush = c.nFlush + 1 := by
  unfold Child.nFlush; rw [flush_log, List.countP_append, (flush_logged c tc).2]

theorem nShutdown_shutdown (c : Child) (tc : TC) : (c.shutdown tc).child.nShutdown = c.nShutdown + 1 := by
  unfold Child.nShutdown; rw [shutdown_log, List.countP_append, (shutdown_logged c tc).2]



/-- invariant of one child: a latching child's exporter has been shut down exactly as often as its latch says (never
    twice), and a batch child that has been shut down holds no records -/
structure CInv (c : Child) : Prop where
  once : Latching c → c.nXShutdown = (if c.latched then 1 else 0)
  drained : c.kind = .batch → c.latched = true → c.queued = 0

theorem cinv_fresh (k : Kind) (fs : List (Bool × Bool)) (ss : List Bool) : CInv (Child.mk' k fs ss) :=
  ⟨fun _ => rfl, fun _ h => by cases h⟩

/-- one call at one child -/
inductive CStep : Child → Child → Prop
  | flush (c : Child) (tc : TC) : CStep c (c.flush tc).child
  | shutdown (c : Child) (tc : TC) : CStep c (c.shutdown tc).child
  | onEnd (c : Child) : CStep c c.onEnd.child
  | dtor (c : Child) : CStep c c.dtor.child
  | collect (c : Child) : CStep c c.collect.child

/-- any number of calls at one child -/
inductive CSteps : Child → Child → Prop
  | refl (c : Child) : CSteps c c
  | tail {a b c : Child} : CSteps a b → CStep b c → CSteps a c

theorem CSteps.trans {a b c : Child} (h1 : CSteps a b) (h2 : CSteps b c) : CSteps a c := by
  induction h2 with
  | refl => exact h1
  | tail _ s ih => exact .tail ih s

theorem CSteps.one {a b : Child} (h : CStep a b) : CSteps a b := .tail (.refl a) h

/-- what one call does to a child's kind, latch, queue and exporter-`Shutdown` count; no invariant is needed -/
theorem cstep_eff {c c' : Child} (s : CStep c c') :
    c'.kind = c.kind ∧
    if c.latched then c'.latched = true ∧ c'.queued = c.queued ∧ c'.nXShutdown = c.nXShutdown
    else (Latching c → c'.nXShutdown = c.nXShutdown + (if c'.latched then 1 else 0)) ∧
      (c'.latched = true → c.kind = .batch → c'.queued = 0) := by
  have hd := countP_drainEvs CEv.isXShutdown fun _ => rfl
  cases s with
  | flush tc => child_cases c <;> simp [Latching, Child.flush, Child.nXShutdown, hd, CEv.isXShutdown]
  | shutdown tc => child_cases c <;> simp [Latching, Child.shutdown, Child.nXShutdown, hd, List.countP_cons, CEv.isXShutdown]
  | onEnd => child_cases c <;> simp [Latching, Child.onEnd, Child.nXShutdown, CEv.isXShutdown]
  | dtor => child_cases c <;> simp [Latching, Child.dtor, Child.nXShutdown, hd, List.countP_cons, CEv.isXShutdown]
  | collect => rcases c with ⟨k, fs, ss, l, q, lg⟩; cases l <;> simp [Child.collect, Child.nXShutdown, CEv.isXShutdown]

theorem cstep_inv {c c' : Child} (s : CStep c c') (h : CInv c) : CInv c' := by
  obtain ⟨hk, he⟩ := cstep_eff s
  have hL : Latching c' → Latching c := by unfold Latching; rw [hk]; exact id
  cases hc : c.latched <;> rw [hc] at he
  · obtain ⟨hx, hq⟩ := he
    exact ⟨fun hL' => by rw [hx (hL hL'), h.once (hL hL'), hc]; exact Nat.zero_add _, fun hb hl' => hq hl' (hk ▸ hb)⟩
  · obtain ⟨l', q', x'⟩ := he
    exact ⟨fun hL' => by rw [x', l', h.once (hL hL'), hc], fun hb _ => by rw [q']; exact h.drained (hk ▸ hb) hc⟩

theorem csteps_inv {c c' : Child} (s : CSteps c c') (h : CInv c) : CInv c' := by
  induction s with
  | refl => exact h
  | tail _ s ih => exact cstep_inv s ih

/-- kind and a set latch survive every call (no invariant needed) -/
theorem csteps_mono {c c' : Child} (s : CSteps c c') : c'.kind = c.kind ∧ (c.latched = true → c'.latched = true) := by
  induction s with
  | refl => exact ⟨rfl, id⟩
  | tail _ s ih => exact ⟨(cstep_eff s).1.trans ih.1, fun h => by have := (cstep_eff s).2; rw [ih.2 h] at this; exact this.1⟩


theorem fold_csteps (call : Child → TC → Out) (hstep : ∀ c tc, CStep c (call c tc).child) (p : Policy) (k : Clock) (i : Nat)
    (cs : List Child) : PW CSteps cs (foldAll call p k i cs).1 :=
  fold_pw call p k i cs fun c tc _ => .one (hstep c tc)

theorem pw_trans {a b c : List Child} (h1 : PW CSteps a b) (h2 : PW CSteps b c) : PW CSteps a c := by
  induction h1 generalizing c with
  | nil => exact h2
  | cons r _ ih => cases h2 with | cons s h2' => exact .cons (r.trans s) (ih h2')

/-- `q` comes from `p` by calls at the children: each child of `q` is that child of `p` after some calls, the layer is
    the same and `MeterContext::shutdown_latch_` has not been reset -/
structure Calls (p q : Prov) : Prop where
  children : PW CSteps p.children q.children
  layer : q.layer = p.layer
  latch : p.latch = true → q.latch = true

theorem Calls.refl (p : Prov) : Calls p p := ⟨PW.refl CSteps.refl _, rfl, id⟩

theorem Calls.trans {p q r : Prov} (h1 : Calls p q) (h2 : Calls q r) : Calls p r :=
  ⟨pw_trans h1.children h2.children, h2.layer.trans h1.layer, fun h => h2.latch (h1.latch h)⟩

theorem Calls.of_children {p : Prov} {cs : List Child} (h : PW CSteps p.children cs) : Calls p { p with children := cs } :=
  ⟨h, rfl, id⟩

theorem flush_calls (p : Prov) (t : TO) : Calls p (p.flush t).1 :=
  .of_children (fold_csteps Child.flush CStep.flush _ _ _ _)

theorem dtorAll_pw (cs : List Child) : PW CSteps cs (dtorAll cs).1 :=
  fold_csteps (fun c _ => c.dtor) (fun c _ => CStep.dtor c) _ _ _ _

/-- a later `Shutdown` of a shut-down meter provider returns true and reaches no reader -/
theorem meter_late_shutdown_returns_true (p : Prov) (t : TO) (hl : p.layer = .meterProvider) (h : p.latch = true) :
    p.shutdown t = (p, true, []) := by
  unfold Prov.shutdown; rw [hl]; simp [h]

/-- the layer forwards this `Shutdown` to its children: every layer but a meter provider whose latch is set -/
def Forwards (p : Prov) : Prop := p.layer ≠ .meterProvider ∨ p.latch = false

/-- a forwarded `Shutdown` is the fold over the children; the latch it leaves, `la`, is set if it was and in a meter provider -/
theorem shutdown_forwards (p : Prov) (t : TO) (h : Forwards p) : ∃ pol la,
    (p.latch = true → la = true) ∧ (p.layer = .meterProvider → la = true) ∧
    p.shutdown t = ({ p with children := (shutdownAll pol (Clock.start t) 0 p.children).1, latch := la },
      (shutdownAll pol (Clock.start t) 0 p.children).2.1, (shutdownAll pol (Clock.start t) 0 p.children).2.2) := by
  unfold Prov.shutdown; split
  · next hl =>
    have hf : p.latch = false := h.resolve_left (fun hne => hne hl)
    simp only [hf]
    exact ⟨.same, true, fun _ => rfl, fun _ => rfl, rfl⟩
  · next hl => exact ⟨_, p.latch, id, fun hm => absurd hm hl, rfl⟩

theorem shutdown_calls (p : Prov) (t : TO) : Calls p (p.shutdown t).1 ∧ (p.shutdown t).1.alive = p.alive := by
  by_cases hl : p.layer = .meterProvider ∧ p.latch = true
  · rw [meter_late_shutdown_returns_true p t hl.1 hl.2]; exact ⟨.refl p, rfl⟩
  · have hf : Forwards p := by
      by_cases hm : p.layer = .meterProvider
      · exact .inr (by cases h : p.latch; rfl; exact absurd ⟨hm, h⟩ hl)
      · exact .inl hm
    obtain ⟨pol, la, hla, _, heq⟩ := shutdown_forwards p t hf
    rw [heq]; exact ⟨⟨fold_csteps Child.shutdown CStep.shutdown _ _ _ _, rfl, hla⟩, rfl⟩

/-- destruction is: the flushes and shutdowns the destructors make first (they lead to `q`), one more `Shutdown`, then the
    children's destructors -/
theorem destroy_eq (p : Prov) : ∃ q : Prov, Calls p q ∧
    p.destroy.1 = { (q.shutdown .max).1 with children := (dtorAll (q.shutdown .max).1.children).1, alive := false } := by
  have hs := (shutdown_calls p .max).1
  unfold Prov.destroy
  split
  · exact ⟨p, .refl p, rfl⟩
  · exact ⟨(p.shutdown .max).1, hs, rfl⟩
  · exact ⟨(p.flush .max).1, flush_calls p .max, rfl⟩
  · exact ⟨((p.shutdown .max).1.flush .max).1, hs.trans (flush_calls _ .max), rfl⟩
  · exact ⟨p, .refl p, rfl⟩

theorem onChild_pw (f : Child → Out) : ∀ (i j : Nat) (cs : List Child) (r : List Child × Bool × Evs),
    onChild f i j cs = some r → PW (fun c c' => c' = c ∨ c' = (f c).child) cs r.1 := by
  intro i j cs
  induction cs generalizing i j with
  | nil => intro r h; cases i <;> simp [onChild] at h
  | cons c cs ih =>
    intro r h
    cases i with
    | zero => simp [onChild] at h; subst h; exact .cons (.inr rfl) (PW.refl (fun _ => .inl rfl) _)
    | succ i =>
      simp only [onChild, Option.map_eq_some_iff] at h
      obtain ⟨r', hr', rfl⟩ := h
      exact .cons (.inl rfl) (ih _ _ _ hr')

/-- **every provider-level call is, at each child, a sequence of calls at that child**; the layer is kept, no call resets
    `MeterContext::shutdown_latch_`, and only destruction ends the provider's life -/
theorem step_frame (p : Prov) (op : Op) : Calls p (p.step op).1 ∧ (op ≠ .destroy → (p.step op).1.alive = p.alive) := by
  have stay : Calls p p ∧ (op ≠ .destroy → p.alive = p.alive) := ⟨.refl p, fun _ => rfl⟩
  have kids : ∀ {cs : List Child}, PW CSteps p.children cs →
      Calls p { p with children := cs } ∧ (op ≠ .destroy → p.alive = p.alive) := fun h => ⟨.of_children h, fun _ => rfl⟩
  -- a call `f` made directly at one child
  have direct : ∀ {f : Child → Out}, (∀ c, CStep c (f c).child) → ∀ {i : Nat} {r : List Child × Bool × Evs},
      onChild f i 0 p.children = some r → PW CSteps p.children r.1 := fun hf _ r hr =>
    (onChild_pw _ _ _ _ r hr).mono fun c c' h => by
      rcases h with rfl | rfl
      · exact .refl _
      · exact .one (hf c)
  unfold Prov.step
  split
  · exact stay
  · cases op with
    | flush t => exact ⟨flush_calls p t, fun _ => rfl⟩
    | shutdown t => exact ⟨(shutdown_calls p t).1, fun _ => (shutdown_calls p t).2⟩
    | emit =>
      dsimp only; split
      · exact stay
      · exact kids (fold_csteps (fun c _ => c.onEnd) (fun c _ => .onEnd c) _ _ _ _)
    | destroy =>
      obtain ⟨q, hq, heq⟩ := destroy_eq p
      show Calls p p.destroy.1 ∧ _
      rw [heq]
      exact ⟨(hq.trans (shutdown_calls q .max).1).trans ⟨dtorAll_pw _, rfl, id⟩, fun h => absurd rfl h⟩
    | collect i =>
      dsimp only; split
      · exact stay
      · split
        · exact stay
        · next r hr => exact kids (direct CStep.collect hr)
    | readerShutdown i =>
      dsimp only; split
      · exact stay
      · split
        · exact stay
        · next r hr => exact kids (direct (fun c => .shutdown c .max) hr)
    | readerFlush i =>
      dsimp only; split
      · exact stay
      · split
        · exact stay
        · next r hr => exact kids (direct (fun c => .flush c .max) hr)

theorem step_dead (p : Prov) (op : Op) (h : p.alive = false) : (p.step op).1 = p := by simp [Prov.step, h]

theorem step_shutdown_alive (p : Prov) (t : TO) (ha : p.alive = true) : (p.step (.shutdown t)).1 = (p.shutdown t).1 := by
  simp [Prov.step, ha]

theorem step_destroy_alive (p : Prov) (ha : p.alive = true) : (p.step .destroy).1 = p.destroy.1 := by
  simp [Prov.step, ha]

theorem after_nil (p : Prov) : p.after [] = p := rfl
theorem after_cons (p : Prov) (op : Op) (ops : List Op) : p.after (op :: ops) = (p.step op).1.after ops := rfl

theorem after_append (p : Prov) (a b : List Op) : p.after (a ++ b) = (p.after a).after b := by
  induction a generalizing p with
  | nil => rfl
  | cons op a ih => rw [List.cons_append, after_cons, after_cons, ih]

theorem after_inv {P : Prov → Prop} {ops : List Op} (h : ∀ p, ∀ op ∈ ops, P p → P (p.step op).1) {p : Prov} (hp : P p) :
    P (p.after ops) := by
  induction ops generalizing p with
  | nil => exact hp
  | cons op ops ih => exact ih (fun q o ho => h q o (List.mem_cons_of_mem _ ho)) (h p op (List.mem_cons_self ..) hp)

theorem run_calls (p : Prov) (ops : List Op) : Calls p (p.after ops) :=
  after_inv (P := Calls p) (fun q op _ h => h.trans (step_frame q op).1) (.refl p)

/-- **the child invariant along every sequence of provider-level calls**, for every layer, every list of children, every
    script: each latching child's exporter has been shut down once if its latch is set and never otherwise — so never twice -/
theorem child_inv_run (p : Prov) (ops : List Op) (h : ∀ c ∈ p.children, CInv c) : ∀ c ∈ (p.after ops).children, CInv c :=
  PW.forall_mem (R := CSteps) (P := CInv) (Q := CInv) (fun _ _ s hc => csteps_inv s hc) (run_calls p ops).children h

/-- **at most once**, whatever is requested how often: provider `Shutdown`s, destruction, in any order -/
theorem exporter_shutdown_at_most_once_through_provider (l : Layer) (cs : List Child) (ops : List Op)
    (hfresh : ∀ c ∈ cs, CInv c) : ∀ c ∈ ((Prov.init l cs).after ops).children, Latching c → c.nXShutdown ≤ 1 := by
  intro c hc hl
  have := (child_inv_run (Prov.init l cs) ops hfresh c hc).once hl
  rw [this]; split <;> simp


/-- **ForceFlush at any layer calls every child's ForceFlush exactly once** — also when an earlier child fails, also on
    a shut-down meter provider -/
theorem fanout_flush_calls_every_child (p : Prov) (t : TO) :
    PW (fun c c' => ∃ tc, c' = (c.flush tc).child ∧ c'.nFlush = c.nFlush + 1) p.children (p.flush t).1.children :=
  fold_pw Child.flush _ _ _ _ fun c tc _ => ⟨tc, rfl, nFlush_flush c tc⟩

/-- **ForceFlush at the layer returned true ⇒ every child's ForceFlush was called and returned true** (and the call is in
    the child's log with that result) -/
theorem fanout_flush_sound (p : Prov) (t : TO) (h : (p.flush t).2.1 = true) :
    PW (fun c c' => ∃ tc, c' = (c.flush tc).child ∧ (c.flush tc).res = true ∧ CEv.flush tc true ∈ (c.flush tc).evs ∧
      c'.log = c.log ++ (c.flush tc).evs) p.children (p.flush t).1.children :=
  fold_pw Child.flush _ _ _ _ fun c tc hr => by
    refine ⟨tc, rfl, hr h, ?_, flush_log c tc⟩
    have := (flush_logged c tc).1; rwa [hr h] at this

/-- a child's ForceFlush that returned true: the exporter's own ForceFlush was invoked (simple, batch), and a batch child
    was not shut down, passed everything it held to Export and holds nothing any more -/
theorem flush_true_child (c : Child) (tc : TC) (h : (c.flush tc).res = true) :
    (Latching c → ∃ r, CEv.xFlush r ∈ (c.flush tc).evs) ∧
    (c.kind = .batch → c.latched = false ∧ (c.flush tc).child.queued = 0 ∧ CEv.xFlush true ∈ (c.flush tc).evs ∧
      (c.queued ≠ 0 → CEv.xExport c.queued ∈ (c.flush tc).evs)) := by
  -- in each case the call is a written-out record; `h` (the result) rules out the latched batch child
  child_cases c <;> simp [Latching, Child.flush, drainEvs] at h ⊢

/-- **provider-level completeness**: the layer's ForceFlush returned true ⇒ at every simple / batch child the exporter's
    ForceFlush was invoked in this call, and every batch child (not shut down) handed everything it held to Export.
    (`Otel.C02.flush_complete` is what makes "held" mean "ended before the call began" for the real batch processor.) -/
theorem fanout_flush_complete_batch (p : Prov) (t : TO) (h : (p.flush t).2.1 = true) :
    PW (fun c c' => ∃ tc, c' = (c.flush tc).child ∧ (Latching c → ∃ r, CEv.xFlush r ∈ (c.flush tc).evs) ∧
      (c.kind = .batch → c.latched = false ∧ c'.queued = 0 ∧ CEv.xFlush true ∈ (c.flush tc).evs ∧
        (c.queued ≠ 0 → CEv.xExport c.queued ∈ (c.flush tc).evs))) p.children (p.flush t).1.children :=
  fold_pw Child.flush _ _ _ _ fun c tc hr => ⟨tc, rfl, (flush_true_child c tc (hr h)).1, (flush_true_child c tc (hr h)).2⟩

/-- the result of the layer's ForceFlush is the conjunction of the children's results … -/
theorem flush_result (p : Prov) (t : TO) : (p.flush t).2.1 = p.children.all (fun c => (c.flush .max).res) :=
  fold_result Child.flush flush_res_indep _ _ _ _

/-- … so **one failing child makes it false** (D02: `MultiSpanProcessor` or-ed the results into `true`) -/
theorem fanout_flush_false_of_failing_child (p : Prov) (t : TO) (c : Child) (hc : c ∈ p.children)
    (hf : ∀ tc, (c.flush tc).res = false) : (p.flush t).2.1 = false := by
  rw [flush_result, List.all_eq_false]
  exact ⟨c, hc, by rw [hf]; exact Bool.false_ne_true⟩


/-- **Shutdown at a layer calls every child's Shutdown exactly once**, whatever the other children return -/
theorem fanout_shutdown_calls_every_child (p : Prov) (t : TO) (h : Forwards p) :
    PW (fun c c' => ∃ tc, c' = (c.shutdown tc).child ∧ c'.nShutdown = c.nShutdown + 1) p.children (p.shutdown t).1.children := by
  obtain ⟨pol, la, _, _, heq⟩ := shutdown_forwards p t h
  rw [heq]
  exact fold_pw Child.shutdown _ _ _ _ fun c tc _ => ⟨tc, rfl, nShutdown_shutdown c tc⟩

/-- **Shutdown at the layer returned true ⇒ every child's Shutdown returned true**; and its result is the conjunction of
    the children's results, so one failing child makes it false (D02 / D81: both multi-processors or-ed into `true`) -/
theorem fanout_shutdown_result (p : Prov) (t : TO) (h : Forwards p) :
    ((p.shutdown t).2.1 = true → PW (fun c c' => ∃ tc, c' = (c.shutdown tc).child ∧ (c.shutdown tc).res = true ∧
        CEv.shutdown tc true ∈ (c.shutdown tc).evs) p.children (p.shutdown t).1.children) ∧
    (p.shutdown t).2.1 = p.children.all (fun c => (c.shutdown .max).res) := by
  obtain ⟨pol, la, _, _, heq⟩ := shutdown_forwards p t h
  rw [heq]
  refine ⟨fun h => fold_pw Child.shutdown _ _ _ _ fun c tc hr => ⟨tc, rfl, hr h, ?_⟩, fold_result Child.shutdown shutdown_res_indep _ _ _ _⟩
  have := (shutdown_logged c tc).1; rwa [hr h] at this

theorem shutdown_child_latches (c : Child) (tc : TC) :
    (Latching (c.shutdown tc).child → (c.shutdown tc).child.latched = true) ∧
    ((c.shutdown tc).child.kind = .batch → CInv c → (c.shutdown tc).child.queued = 0) := by
  constructor
  · child_cases c <;> simp [Latching, Child.shutdown]
  · intro hk hi; have := hi.drained
    -- only the two batch cases meet `hk`; the latched one is drained by `this`, the other by the call
    child_cases c <;> simp_all [Child.shutdown]

/-- after a forwarded `Shutdown` every child with a latch has it set -/
theorem fanout_shutdown_latches_every_child (p : Prov) (t : TO) (h : Forwards p) :
    ∀ c' ∈ (p.shutdown t).1.children, Latching c' → c'.latched = true := by
  refine PW.forall_mem (P := fun _ => True) (fun c c' hc _ hl => ?_) (fanout_shutdown_calls_every_child p t h) (fun _ _ => trivial)
  obtain ⟨tc, rfl, _⟩ := hc
  exact (shutdown_child_latches c tc).1 hl

/-- **Shutdown through the provider drains**: after a forwarded `Shutdown` no batch child holds a record -/
theorem batch_shutdown_drains_through_provider (p : Prov) (t : TO) (h : Forwards p) (hinv : ∀ c ∈ p.children, CInv c) :
    ∀ c' ∈ (p.shutdown t).1.children, c'.kind = .batch → c'.queued = 0 := by
  refine PW.forall_mem (P := CInv) (fun c c' hc hi hb => ?_) (fanout_shutdown_calls_every_child p t h) hinv
  obtain ⟨tc, rfl, _⟩ := hc
  exact (shutdown_child_latches c tc).2 hb hi


/-- all latching children latched: kept by whatever is called afterwards -/
theorem all_latched_pw {a b : List Child} (h : PW CSteps a b) (ha : ∀ c ∈ a, Latching c → c.latched = true) :
    ∀ c ∈ b, Latching c → c.latched = true :=
  PW.forall_mem (R := CSteps) (P := fun c => Latching c → c.latched = true) (Q := fun c => Latching c → c.latched = true)
    (fun c c' s hc hl => (csteps_mono s).2 (hc (by unfold Latching at *; rwa [(csteps_mono s).1] at hl))) h ha

/-- **exactly once after a Shutdown through the provider**: any calls before, a `Shutdown` at a live tracer / logger
    provider or multi-processor, any calls after (more Shutdowns, ForceFlushes, destruction): every simple / batch child's
    exporter has been shut down exactly once.  The latch that makes it so is the child's own. -/
theorem exporter_shutdown_exactly_once_after_shutdown (l : Layer) (hl : l ≠ .meterProvider) (cs : List Child)
    (hfresh : ∀ c ∈ cs, CInv c) (before after : List Op) (t : TO) (halive : ((Prov.init l cs).after before).alive = true) :
    ∀ c ∈ ((Prov.init l cs).after (before ++ .shutdown t :: after)).children, Latching c → c.nXShutdown = 1 := by
  intro c hc hlat
  have hinv := child_inv_run (Prov.init l cs) (before ++ .shutdown t :: after) hfresh c hc
  rw [after_append, after_cons, step_shutdown_alive _ t halive] at hc
  have hfw : Forwards ((Prov.init l cs).after before) := Or.inl (by rw [(run_calls _ _).layer]; exact hl)
  have h1 := fanout_shutdown_latches_every_child _ t hfw
  rw [hinv.once hlat, all_latched_pw (run_calls _ after).children h1 c hc hlat]; rfl

/-- destruction of a span / log layer leaves every latching child latched -/
theorem destroy_latches (p : Prov) (hl : p.layer ≠ .meterProvider) :
    ∀ c ∈ p.destroy.1.children, Latching c → c.latched = true := by
  obtain ⟨q, hq, heq⟩ := destroy_eq p
  rw [heq]
  exact all_latched_pw (dtorAll_pw _) (fanout_shutdown_latches_every_child q .max (.inl (hq.layer ▸ hl)))

/-- a destroyed span / log layer has all its latching children latched -/
theorem dead_latched (p : Prov) (hl : p.layer ≠ .meterProvider) (ops : List Op)
    (h : p.alive = false → ∀ c ∈ p.children, Latching c → c.latched = true) :
    (p.after ops).alive = false → ∀ c ∈ (p.after ops).children, Latching c → c.latched = true :=
  (after_inv (P := fun q => q.layer ≠ .meterProvider ∧ (q.alive = false → ∀ c ∈ q.children, Latching c → c.latched = true))
    (fun q op _ ⟨hl, h⟩ => ⟨by rw [(step_frame q op).1.layer]; exact hl, by
      cases ha : q.alive
      · rw [step_dead q op ha]; exact h
      · by_cases hd : op = .destroy
        · subst hd; rw [step_destroy_alive q ha]; intro _; exact destroy_latches q hl
        · intro hdead; rw [(step_frame q op).2 hd, ha] at hdead; cases hdead⟩) ⟨hl, h⟩).2

/-- **exactly once by destruction, however many Shutdowns came before**: once a tracer / logger provider or
    multi-processor has been destroyed — after any sequence of `ForceFlush` / `Shutdown` / records — every simple / batch
    child's exporter has been shut down exactly once (`TracerProvider`: its destructor, then `~MultiSpanProcessor`, then
    the child's own destructor each ask again; the child's latch absorbs them) -/
theorem exporter_shutdown_exactly_once_through_provider (l : Layer) (hl : l ≠ .meterProvider) (cs : List Child)
    (hfresh : ∀ c ∈ cs, CInv c) (ops : List Op) (hdead : ((Prov.init l cs).after ops).alive = false) :
    ∀ c ∈ ((Prov.init l cs).after ops).children, Latching c → c.nXShutdown = 1 := by
  intro c hc hlat
  rw [(child_inv_run (Prov.init l cs) ops hfresh c hc).once hlat,
    dead_latched (Prov.init l cs) hl ops (fun h => by cases h) hdead c hc hlat]; rfl

/-- the span and log layers have **no latch of their own**: two `Shutdown`s and the destruction of a `TracerProvider`
    reach a (latch-less) child's `Shutdown` four times, of a `LoggerProvider` four times (plus a late `ForceFlush`), of a
    bare `MultiSpanProcessor` / `MultiLogRecordProcessor` three times; a `MeterProvider` forwards one -/
theorem no_layer_latch_witness :
    ([Layer.tracerProvider, .loggerProvider, .multiSpan, .multiLog, .meterProvider].map fun l =>
      (((Prov.init l [Child.mk' .raw [] []]).after [.shutdown .max, .shutdown .max, .destroy]).children.map Child.nShutdown))
    = [[4], [4], [3], [3], [1]] := by decide

example : ∀ c ∈ [Child.mk' .batch [] [true], Child.mk' .simpleSpan [] []], CInv c := by
  intro c hc; simp at hc; rcases hc with rfl | rfl <;> exact cinv_fresh _ _ _
example : (((Prov.init .tracerProvider [Child.mk' .batch [] [true], Child.mk' .simpleSpan [] []]).after
    [.emit, .shutdown .max, .shutdown .zero, .flush .max, .destroy]).children.map Child.nXShutdown) = [1, 1] := by decide


theorem late_shutdown_child (c : Child) (tc : TC) (hl : Latching c) (h : c.latched = true) :
    (c.shutdown tc).res = true ∧ ∀ e ∈ (c.shutdown tc).evs, e.isX = false := by
  -- in each of the three kinds the latched branch logs `shutdown` (and `bstate`) only
  rcases hl with hk | hk | hk <;> simp [Child.shutdown, hk, h, CEv.isX, CEv.isXShutdown, CEv.isXFlush, CEv.isXExport]

theorem late_flush_batch_child (c : Child) (tc : TC) (hk : c.kind = .batch) (h : c.latched = true) :
    (c.flush tc).res = false ∧ ∀ e ∈ (c.flush tc).evs, e.isX = false := by
  simp [Child.flush, hk, h, CEv.isX, CEv.isXShutdown, CEv.isXFlush, CEv.isXExport]

/-- **a later Shutdown** at a span / log layer whose simple / batch children have all been shut down: every child is asked
    again (no layer latch), each answers true without touching its exporter, the layer returns true and **no exporter
    call is made**.  (A meter provider: `meter_late_shutdown_returns_true`.) -/
theorem late_calls_after_shutdown (p : Prov) (t : TO) (hl : p.layer ≠ .meterProvider)
    (h : ∀ c ∈ p.children, Latching c ∧ c.latched = true) :
    (p.shutdown t).2.1 = true ∧ ∀ e ∈ (p.shutdown t).2.2, e.2.isX = false := by
  obtain ⟨pol, la, _, _, heq⟩ := shutdown_forwards p t (.inl hl)
  rw [heq]
  constructor
  · show (foldAll Child.shutdown _ _ _ _).2.1 = true
    rw [fold_result Child.shutdown shutdown_res_indep, List.all_eq_true]
    intro c hc; exact (late_shutdown_child c .max (h c hc).1 (h c hc).2).1
  · exact fold_events Child.shutdown _ _ _ _ fun c hc tc => (late_shutdown_child c tc (h c hc).1 (h c hc).2).2

/-- **a later ForceFlush** reaching shut-down batch children: each returns false, **no exporter call is made**, and
    (with the D02 fix) the layer returns false as soon as there is one such child -/
theorem late_batch_no_exporter_call (p : Prov) (t : TO) (h : ∀ c ∈ p.children, c.kind = .batch ∧ c.latched = true) :
    (∀ e ∈ (p.flush t).2.2, e.2.isX = false) ∧ (p.children ≠ [] → (p.flush t).2.1 = false) := by
  refine ⟨fold_events Child.flush _ _ _ _ fun c hc tc => (late_flush_batch_child c tc (h c hc).1 (h c hc).2).2, fun hne => ?_⟩
  obtain ⟨c, hc⟩ := List.exists_mem_of_ne_nil _ hne
  exact fanout_flush_false_of_failing_child p t c hc fun tc => (late_flush_batch_child c tc (h c hc).1 (h c hc).2).1

/-- the simple processors are different, as coded: `ForceFlush` does not look at the latch, a late `ForceFlush` (for a
    `LoggerProvider` the one its own destruction makes after `Shutdown`) **does reach the exporter's `ForceFlush`** -/
theorem late_simple_flush_reaches_exporter_witness :
    (((Prov.init .loggerProvider [Child.mk' .simpleLog [] []]).run [.shutdown .max, .flush .max, .destroy]).2.map
      fun o => o.2.map (·.2)) =
    [[.xShutdown true, .shutdown .nsmax true], [.xFlush true, .flush .nsmax true],
     [.shutdown .nsmax true, .xFlush true, .flush .nsmax true, .shutdown .nsmax true, .dtor]] := by decide


/-- calls made at the provider (not at a reader behind its back) -/
def providerLevel : Op → Prop
  | .readerShutdown _ => False
  | _ => True

theorem nShutdown_of_log {c c' : Child} {evs : List CEv} (h : c'.log = c.log ++ evs) (h0 : evs.countP CEv.isShutdown = 0) :
    c'.nShutdown = c.nShutdown := by
  unfold Child.nShutdown; rw [h, List.countP_append, h0]; rfl

theorem nShutdown_flush (c : Child) (tc : TC) : (c.flush tc).child.nShutdown = c.nShutdown := by
  have hd := countP_drainEvs CEv.isShutdown fun _ => rfl
  refine nShutdown_of_log (flush_log c tc) ?_
  child_cases c <;> simp [Child.flush, hd, CEv.isShutdown]

theorem nShutdown_dtor (c : Child) (hk : c.kind = .reader) : c.dtor.child.nShutdown = c.nShutdown := by
  simp [Child.dtor, hk, Child.nShutdown, CEv.isShutdown]

theorem nShutdown_collect (c : Child) : c.collect.child.nShutdown = c.nShutdown := by
  simp [Child.collect, Child.nShutdown, CEv.isShutdown]

/-- meter invariant: all children are readers, and each reader's `OnShutDown` has run once if the context latch is set,
    never otherwise; a destroyed provider has its latch set -/
structure MInv (p : Prov) : Prop where
  layer : p.layer = .meterProvider
  readers : ∀ c ∈ p.children, c.kind = .reader ∧ c.nShutdown = (if p.latch then 1 else 0)
  dead : p.alive = false → p.latch = true

/-- calls that leave a reader a reader and log `d` `Shutdown`s at it, when the latch moves accordingly -/
theorem minv_pw {p : Prov} (h : MInv p) {l : Layer} (hl : l = .meterProvider) {cs : List Child} {la al : Bool} (d : Nat)
    (hd : (if la then 1 else 0) = (if p.latch then 1 else 0) + d) (hal : al = false → la = true)
    (hq : PW (fun c c' => c.kind = .reader → c'.kind = .reader ∧ c'.nShutdown = c.nShutdown + d) p.children cs) :
    MInv ⟨l, cs, la, al⟩ :=
  ⟨hl, PW.forall_mem (P := fun c => c.kind = .reader ∧ c.nShutdown = (if p.latch then 1 else 0))
    (fun _ _ hc hP => ⟨(hc hP.1).1, by rw [(hc hP.1).2, hP.2, hd]⟩) hq h.readers, hal⟩

theorem minv_shutdown (p : Prov) (t : TO) (h : MInv p) : MInv (p.shutdown t).1 ∧ (p.shutdown t).1.latch = true := by
  cases hlatch : p.latch
  · obtain ⟨pol, la, _, hla, heq⟩ := shutdown_forwards p t (.inr hlatch)
    obtain rfl := hla h.layer
    rw [heq]
    exact ⟨minv_pw h h.layer 1 (by rw [hlatch]; rfl) (fun _ => rfl) (fold_pw Child.shutdown _ _ _ _ fun c tc _ hk =>
      ⟨(cstep_eff (.shutdown c tc)).1.trans hk, nShutdown_shutdown c tc⟩), rfl⟩
  · rw [meter_late_shutdown_returns_true p t h.layer hlatch]; exact ⟨h, hlatch⟩

theorem minv_step (p : Prov) (op : Op) (hop : providerLevel op) (h : MInv p) : MInv (p.step op).1 := by
  have direct : ∀ (f : Child → Out) (i : Nat) (r : List Child × Bool × Evs), onChild f i 0 p.children = some r →
      (∀ c, c.kind = .reader → (f c).child.kind = .reader ∧ (f c).child.nShutdown = c.nShutdown) →
      MInv ⟨.meterProvider, r.1, p.latch, true⟩ := fun f i r hr hf =>
    minv_pw h rfl 0 rfl (fun hd => by cases hd) ((onChild_pw f i 0 _ r hr).mono fun c c' hc hk => by
      rcases hc with rfl | rfl
      · exact ⟨hk, rfl⟩
      · exact hf c hk)
  cases ha : p.alive
  · rw [step_dead p op ha]; exact h
  · unfold Prov.step; rw [ha]; simp only [Bool.not_true, Bool.false_eq_true, if_false]
    cases op with
    | flush t =>
      exact minv_pw h h.layer 0 rfl h.dead
        (fold_pw Child.flush _ _ _ _ fun c tc _ hk => ⟨(cstep_eff (.flush c tc)).1.trans hk, nShutdown_flush c tc⟩)
    | shutdown t => exact (minv_shutdown p t h).1
    | emit => simp [h.layer]; exact h
    | destroy =>
      show MInv p.destroy.1
      have hd : p.destroy.1 = { (p.shutdown .max).1 with children := (dtorAll (p.shutdown .max).1.children).1, alive := false } := by
        unfold Prov.destroy; rw [h.layer]
      obtain ⟨hm, hl⟩ := minv_shutdown p .max h
      rw [hd]
      exact minv_pw hm hm.layer 0 rfl (fun _ => hl)
        (fold_pw (fun c _ => c.dtor) _ _ _ _ fun c _ _ hk => ⟨(cstep_eff (.dtor c)).1.trans hk, nShutdown_dtor c hk⟩)
    | collect i =>
      simp only [h.layer, ne_eq, not_true_eq_false, if_false]
      split
      · exact h
      · next r hr => exact direct _ i r hr fun c hk => ⟨hk, nShutdown_collect c⟩
    | readerShutdown i => exact absurd hop id
    | readerFlush i =>
      simp only [h.layer, ne_eq, not_true_eq_false, if_false]
      split
      · exact h
      · next r hr => exact direct _ i r hr fun c hk => ⟨(cstep_eff (.flush c .max)).1.trans hk, nShutdown_flush c .max⟩

theorem minv_run {p : Prov} (h : MInv p) {ops : List Op} (hops : ∀ op ∈ ops, providerLevel op) : MInv (p.after ops) :=
  after_inv (fun q op ho hq => minv_step q op (hops op ho) hq) h

/-- **`MeterContext::Shutdown` forwards once**: for every list of readers and every sequence of calls made at the provider
    (`ForceFlush`, `Shutdown`, direct `Collect` / `ForceFlush` of a reader, destruction, in any order and number), each reader's
    `OnShutDown` has run exactly once if the context latch is set and never otherwise; the latch is set by the first
    `Shutdown` and by destruction.  The latch is `MeterContext::shutdown_latch_` — `MetricReader::Shutdown` has none. -/
theorem meter_shutdown_once (readers : List Child) (hr : ∀ c ∈ readers, c.kind = .reader ∧ c.log = []) (ops : List Op)
    (hops : ∀ op ∈ ops, providerLevel op) :
    let p := (Prov.init .meterProvider readers).after ops
    (∀ c ∈ p.children, c.nShutdown = (if p.latch then 1 else 0)) ∧ (p.alive = false → p.latch = true) ∧
    ((∃ t, Op.shutdown t ∈ ops) → p.latch = true) := by
  have h0 : MInv (Prov.init .meterProvider readers) :=
    ⟨rfl, fun c hc => ⟨(hr c hc).1, by simp [Child.nShutdown, (hr c hc).2, Prov.init]⟩, fun h => by cases h⟩
  refine ⟨fun c hc => ((minv_run h0 hops).readers c hc).2, (minv_run h0 hops).dead, fun ⟨t, ht⟩ => ?_⟩
  -- the calls before that `Shutdown`, the `Shutdown`, the rest: the `Shutdown` of a live provider sets the latch, a dead one
  -- has it set, and no later call resets it
  obtain ⟨before, rest, rfl⟩ := List.append_of_mem ht
  have hq := minv_run h0 (ops := before) fun op ho => hops op (List.mem_append_left _ ho)
  rw [after_append, after_cons]
  refine (run_calls _ rest).latch ?_
  cases ha : ((Prov.init .meterProvider readers).after before).alive
  · rw [step_dead _ _ ha]; exact hq.dead ha
  · rw [step_shutdown_alive _ t ha]; exact (minv_shutdown _ t hq).2

/-- **`MeterContext::ForceFlush` reaches every reader**, whatever the others return and whether or not the provider has been
    shut down (no look at the latch; `MetricReader::ForceFlush` only warns) -/
theorem meter_flush_every_reader (p : Prov) (t : TO) (_hl : p.layer = .meterProvider) :
    PW (fun c c' => ∃ tc, c' = (c.flush tc).child ∧ c'.nFlush = c.nFlush + 1) p.children (p.flush t).1.children :=
  fanout_flush_calls_every_child p t

/-- `MeterProvider::ForceFlush` returned true ⇒ every reader's `OnForceFlush` returned true -/
theorem meter_flush_sound (p : Prov) (t : TO) (_hl : p.layer = .meterProvider) (h : (p.flush t).2.1 = true) :
    PW (fun c c' => ∃ tc, c' = (c.flush tc).child ∧ (c.flush tc).res = true ∧ CEv.flush tc true ∈ (c.flush tc).evs ∧
      c'.log = c.log ++ (c.flush tc).evs) p.children (p.flush t).1.children :=
  fanout_flush_sound p t h

/-- `MetricReader::Shutdown` called at the reader is **not** latched: every call runs `OnShutDown` again (a provider
    `Shutdown`, a direct one before and one after it: three) -/
theorem reader_shutdown_not_latched_witness :
    ((Prov.init .meterProvider [Child.mk' .reader [] []]).after [.readerShutdown 0, .shutdown .max, .readerShutdown 0, .shutdown .max]).children.map
      Child.nShutdown = [3] := by decide

/-- `MetricReader::Collect` after `Shutdown` is **not refused**: the flag is read for a warning only, `Produce` and the
    callback run (as coded: "Continue with warning, and let pull and push MetricReader state machine handle this").  What
    keeps a periodic reader from exporting after its `Shutdown` is its `OnShutDown` joining the worker, not this class. -/
theorem reader_collect_after_shutdown_not_refused (c : Child) (_hk : c.kind = .reader) (_h : c.latched = true) :
    c.collect.res = true ∧ c.collect.evs = [.collect] ∧ c.collect.child.log = c.log ++ [.collect] := ⟨rfl, rfl, rfl⟩


/-- `MultiLogRecordProcessor` and `MeterContext::ForceFlush` hand later children what remains of the caller's timeout: once
    a short deadline has passed **every later child is handed zero** — which the batch processors and the periodic reader
    read as "no limit" (`timeout_steady <= 0` → `duration::max()`); an unbounded timeout stays unbounded, a zero timeout
    is zero for everybody; `MultiSpanProcessor` and `MeterContext::Shutdown` pass the caller's value on unchanged -/
theorem later_children_get_zero_after_deadline (k : Clock) (slow : Bool) :
    (k.t = .short → k.expired = true → (k.tick slow).tc .remaining = .zero ∧ (k.tick slow).expired = true) ∧
    (k.t = .short → slow = true → (k.tick slow).tc .remaining = .zero) ∧
    (k.t = .zero → k.tc .remaining = .zero ∧ (k.tick slow).tc .remaining = .zero) ∧
    (k.t = .max → (k.tick slow).tc .remaining = .huge) ∧
    (k.tc .same = (Clock.start k.t).tc .same ∧ (k.tick slow).tc .same = k.tc .same) := by
  rcases k with ⟨t, f, e⟩
  -- each clause fixes the timeout, after which `Clock.tc` of the ticked clock (`first := false`) computes
  refine ⟨?_, ?_, ?_, ?_, by cases t <;> exact ⟨rfl, rfl⟩⟩
  · rintro rfl rfl; exact ⟨rfl, rfl⟩
  · rintro rfl rfl; cases e <;> rfl
  · rintro rfl; exact ⟨rfl, rfl⟩
  · rintro rfl; rfl

example : (flushAll .remaining (Clock.start .short) 0
    [Child.mk' .raw [(true, true)] [], Child.mk' .raw [] [], Child.mk' .raw [] []]).2.2.map (·.2) =
    [.flush .short true, .flush .zero true, .flush .zero true] := by decide

namespace Latch
open Otel.Fanout.Latch

/-- nothing forwarded while the latch is clear; once it is set there is exactly one winner, who has either not forwarded
    yet or forwarded once and returned, and everybody else has not begun or has returned without forwarding -/
def Inv (s : St) : Prop :=
  (s.latch = false → s.forwarded = 0 ∧ ∀ i, s.pc i = .start) ∧
  (s.latch = true → ∃ w, ((s.pc w = .won ∧ s.forwarded = 0) ∨ (s.pc w = .ret true ∧ s.forwarded = 1)) ∧
    ∀ i, i ≠ w → (s.pc i = .start ∨ s.pc i = .ret false))

theorem upd_same (f : Nat → PC) (i : Nat) (v : PC) : upd f i v i = v := by simp [upd]
theorem upd_other (f : Nat → PC) (i j : Nat) (v : PC) (h : j ≠ i) : upd f i v j = f j := by simp [upd, h]

theorem step_start_free (s : St) (i : Nat) (hpc : s.pc i = .start) (hl : s.latch = false) :
    step s i = { s with latch := true, pc := upd s.pc i .won } := by simp [step, hpc, hl]
theorem step_start_set (s : St) (i : Nat) (hpc : s.pc i = .start) (hl : s.latch = true) :
    step s i = { s with pc := upd s.pc i (.ret false) } := by simp [step, hpc, hl]
theorem step_won (s : St) (i : Nat) (hpc : s.pc i = .won) :
    step s i = { s with forwarded := s.forwarded + 1, pc := upd s.pc i (.ret true) } := by simp [step, hpc]
theorem step_ret (s : St) (i : Nat) (b : Bool) (hpc : s.pc i = .ret b) : step s i = s := by simp [step, hpc]

/-- moving caller `i` keeps "everybody but `w` has not begun or has lost" when `i` is `w` or moves to `ret false` -/
theorem rest_upd {pc : Nat → PC} {w : Nat} (h : ∀ j, j ≠ w → pc j = .start ∨ pc j = .ret false) (i : Nat) (v : PC)
    (hv : i = w ∨ v = .ret false) : ∀ j, j ≠ w → upd pc i v j = .start ∨ upd pc i v j = .ret false := by
  intro j hj
  by_cases hji : j = i
  · subst hji
    rcases hv with rfl | rfl
    · exact absurd rfl hj
    · exact .inr (upd_same ..)
  · rw [upd_other _ _ _ _ hji]; exact h j hj

/-- a caller at `won` or at `ret true` is the winner -/
theorem Inv.winner {s : St} (h : Inv s) {i : Nat} (hi : s.pc i = .won ∨ s.pc i = .ret true) :
    s.latch = true ∧ ((s.pc i = .won ∧ s.forwarded = 0) ∨ (s.pc i = .ret true ∧ s.forwarded = 1)) ∧
    ∀ j, j ≠ i → s.pc j = .start ∨ s.pc j = .ret false := by
  cases hl : s.latch with
  | false => have := (h.1 hl).2 i; rcases hi with hi | hi <;> (rw [hi] at this; cases this)
  | true =>
    obtain ⟨w, hw, hrest⟩ := h.2 hl
    obtain rfl : i = w := Classical.byContradiction fun hne => by
      rcases hrest i hne with h' | h' <;> rcases hi with hi | hi <;> (rw [hi] at h'; cases h')
    exact ⟨rfl, hw, hrest⟩

theorem inv_step (s : St) (i : Nat) (h : Inv s) : Inv (step s i) := by
  cases hpc : s.pc i with
  | start =>
    cases hl : s.latch with
    | false =>
      -- caller i wins
      obtain ⟨hf, hall⟩ := h.1 hl
      rw [step_start_free s i hpc hl]
      exact ⟨nofun, fun _ => ⟨i, .inl ⟨upd_same .., hf⟩, rest_upd (fun j _ => .inl (hall j)) i _ (.inl rfl)⟩⟩
    | true =>
      -- caller i loses: returns without forwarding; the winner is somebody else
      obtain ⟨w, hw, hrest⟩ := h.2 hl
      have hwi : w ≠ i := by
        rintro rfl; rcases hw with ⟨hw, _⟩ | ⟨hw, _⟩ <;> (rw [hpc] at hw; cases hw)
      rw [step_start_set s i hpc hl]
      exact ⟨(fun h => nomatch hl.symm.trans h), fun _ =>
        ⟨w, by simpa only [upd_other _ _ _ _ hwi] using hw, rest_upd hrest i _ (.inr rfl)⟩⟩
  | won =>
    -- caller i is the winner and has not forwarded yet
    obtain ⟨hl, hw, hrest⟩ := h.winner (.inl hpc)
    have hf : s.forwarded = 0 := by
      rcases hw with ⟨_, hf⟩ | ⟨hw, _⟩
      · exact hf
      · rw [hpc] at hw; cases hw
    rw [step_won s i hpc]
    exact ⟨(fun h => nomatch hl.symm.trans h), fun _ =>
      ⟨i, .inr ⟨upd_same .., congrArg (· + 1) hf⟩, rest_upd hrest i _ (.inl rfl)⟩⟩
  | ret b => rw [step_ret s i b hpc]; exact h

theorem inv_run (sched : List Nat) : Inv (run sched) := by
  unfold run
  suffices H : ∀ s, Inv s → Inv (sched.foldl step s) from
    H init ⟨fun _ => ⟨rfl, fun _ => rfl⟩, fun h => by cases h⟩
  induction sched with
  | nil => intro s h; exact h
  | cons i rest ih => intro s h; exact ih _ (inv_step s i h)

/-- **the latch forwards at most once, from however many threads, under every interleaving**; once the caller that forwarded
    has returned it has been forwarded exactly once; the callers that lost never forward -/
theorem latch_forwards_once (sched : List Nat) :
    (run sched).forwarded ≤ 1 ∧
    (∀ i, (run sched).pc i = .ret true → (run sched).forwarded = 1) ∧
    (∀ i j, (run sched).pc i = .ret true → (run sched).pc j = .ret true → i = j) := by
  have h := inv_run sched
  refine ⟨?_, fun i hi => ?_, fun i j hi hj => Classical.byContradiction fun hne => ?_⟩
  · cases hl : (run sched).latch with
    | false => rw [(h.1 hl).1]; exact Nat.zero_le _
    | true =>
      obtain ⟨w, hw, _⟩ := h.2 hl
      rcases hw with ⟨_, hf⟩ | ⟨_, hf⟩ <;> rw [hf] <;> decide
  · rcases (h.winner (.inr hi)).2.1 with ⟨hw, _⟩ | ⟨_, hf⟩
    · rw [hi] at hw; cases hw
    · exact hf
  · rcases (h.winner (.inr hi)).2.2 j (Ne.symm hne) with h' | h' <;> (rw [hj] at h'; cases h')

/-- … but there is no mutex (unlike the batch processors' `shutdown_m`): **a caller that lost the latch can return before
    the exporter has been shut down** — caller 0 wins, caller 1 finds the latch set and returns, nothing forwarded yet -/
theorem loser_returns_before_forwarding_witness :
    (run [0, 1]).pc 1 = .ret false ∧ (run [0, 1]).pc 0 = .won ∧ (run [0, 1]).forwarded = 0 := by decide

example : (run [0, 1, 0, 2]).forwarded = 1 ∧ (run [0, 1, 0, 2]).pc 0 = .ret true ∧ (run [0, 1, 0, 2]).pc 2 = .ret false := by decide

end Latch

end Otel.C02.Fanout
