import OtelVerif.Model.Metrics.View
import OtelVerif.Model.Scope
import OtelVerif.Lemmas.Regex
/-! # C19 — Instrument names, views and scope rules select exactly what they describe

Property theorems about `Model/Metrics/Naming.lean` (mirrors `instrument_metadata_validator.cc`), `Model/Metrics/View.lean`
(predicates, selectors, `ViewRegistry::FindViews`, `default_aggregation.h`, `Meter::Register…MetricStorage`) and
`Model/Scope.lean` (`ScopeConfigurator`, provider lookups).  The two regexes, the default-aggregation table and the shape
of the matching functions come from `Gen/C19.lean`, re-extracted from the source on every run; the numbers of the
property text (254, 63) are literals here. -/
namespace Otel.C19
open Otel Otel.Naming Otel.View

/-! ## The language of the regex fragment (declarative), and the matcher is exactly it -/

/-- a string is in the language of `items` when it is a concatenation of one block per item, each block made of
    characters of the item's class and of a length within the item's bounds -/
def Lang : List RxItem → Bytes → Prop
  | [], s => s = []
  | it :: rest, s => ∃ rep s', s = rep ++ s' ∧ (∀ c ∈ rep, it.has c = true) ∧ it.lo ≤ rep.length ∧
      it.allows rep.length = true ∧ Lang rest s'

/-- `Lang` is the chunk semantics `RxSem` of `Lemmas/Regex.lean`, with the class condition written first -/
theorem lang_iff_rxSem : ∀ (items : List RxItem) (s : Bytes), Lang items s ↔ RxSem items s
  | [], _ => Iff.rfl
  | it :: rest, s => by
    simp only [Lang, RxSem, lang_iff_rxSem rest]
    exact ⟨fun ⟨a, b, hs, hhas, hlo, hal, hb⟩ => ⟨a, b, hs, hlo, hal, hhas, hb⟩,
      fun ⟨a, b, hs, hlo, hal, hhas, hb⟩ => ⟨a, b, hs, hhas, hlo, hal, hb⟩⟩

/-- **the backtracking matcher decides exactly the language** -/
theorem rxMatch_iff_lang (items : List RxItem) (s : Bytes) : rxMatch items s = true ↔ Lang items s :=
  (rxMatch_iff items s).trans (lang_iff_rxSem items s).symm

def IsLetter (c : UInt8) : Prop := (65 ≤ c ∧ c ≤ 90) ∨ (97 ≤ c ∧ c ≤ 122)
def IsDigit (c : UInt8) : Prop := 48 ≤ c ∧ c ≤ 57
/-- letters, digits, `_` `.` `-` `/` -/
def IsNameChar (c : UInt8) : Prop := IsLetter c ∨ IsDigit c ∨ c = 95 ∨ c = 46 ∨ c = 45 ∨ c = 47
instance : DecidablePred IsLetter := fun c => by unfold IsLetter; exact inferInstance
instance : DecidablePred IsDigit := fun c => by unfold IsDigit; exact inferInstance
instance : DecidablePred IsNameChar := fun c => by unfold IsNameChar; exact inferInstance

/-- **the name grammar of the property text**: a letter followed by up to 254 letters, digits, `_`, `.`, `-` or `/` -/
def NameSyntax (s : Bytes) : Prop :=
  ∃ c rest, s = c :: rest ∧ IsLetter c ∧ rest.length ≤ 254 ∧ ∀ x ∈ rest, IsNameChar x

/-- **the unit grammar of the property text**: at most 63 ASCII characters (0x01 … 0x7f; NUL is not a character of a unit) -/
def UnitSyntax (u : Bytes) : Prop := u.length ≤ 63 ∧ ∀ c ∈ u, 1 ≤ c ∧ c ≤ 127

-- [a-zA-Z][-_./a-zA-Z0-9]{0,254}
theorem name_regex : Gen.instrumentNameRx =
    [⟨[(65, 90), (97, 122)], 1, some 1⟩, ⟨[(45, 57), (65, 90), (95, 95), (97, 122)], 0, some 254⟩] := rfl
-- [\x01-\x7F]{0,63}
theorem unit_regex : Gen.instrumentUnitRx = [⟨[(1, 127)], 0, some 63⟩] := rfl
/-- D12: both validators hand the regex the whole `string_view`, not the C string at `data()` -/
theorem validators_see_whole_view : Gen.validateNameWholeView = true ∧ Gen.validateUnitWholeView = true := ⟨rfl, rfl⟩

/-- an item `{1,1}` stands for one character of its class -/
theorem lang_cons_one (rs : List (Nat × Nat)) (rest : List RxItem) (s : Bytes) :
    Lang (⟨rs, 1, some 1⟩ :: rest) s ↔ ∃ c s', s = c :: s' ∧ RxItem.has ⟨rs, 1, some 1⟩ c = true ∧ Lang rest s' := by
  simp only [Lang, RxItem.allows, decide_eq_true_eq]
  constructor
  · rintro ⟨rep, s', rfl, h1, h2, h3, h4⟩
    match rep, Nat.le_antisymm h3 h2 with
    | [c], _ => exact ⟨c, s', rfl, h1 c List.mem_cons_self, h4⟩
  · rintro ⟨c, s', rfl, h1, h2⟩
    exact ⟨[c], s', rfl, fun x hx => List.mem_singleton.1 hx ▸ h1, Nat.le_refl 1, Nat.le_refl 1, h2⟩

/-- a last item `{0,n}` stands for at most `n` characters of its class -/
theorem lang_last (rs : List (Nat × Nat)) (n : Nat) (s : Bytes) :
    Lang [⟨rs, 0, some n⟩] s ↔ s.length ≤ n ∧ ∀ c ∈ s, RxItem.has ⟨rs, 0, some n⟩ c = true := by
  simp only [Lang, RxItem.allows, decide_eq_true_eq]
  constructor
  · rintro ⟨rep, _, rfl, h1, _, h3, rfl⟩
    rw [List.append_nil]; exact ⟨h3, h1⟩
  · rintro ⟨h1, h2⟩
    exact ⟨s, [], (List.append_nil s).symm, h2, Nat.zero_le _, h1, rfl⟩

/-! the three character classes of the two regexes, whatever repetition they carry -/

theorem letter_class (lo : Nat) (hi : Option Nat) (c : UInt8) :
    RxItem.has ⟨[(65, 90), (97, 122)], lo, hi⟩ c = true ↔ IsLetter c := by
  simp only [RxItem.has, IsLetter, List.any_cons, List.any_nil, Bool.or_false, Bool.or_eq_true, Bool.and_eq_true,
    decide_eq_true_eq, UInt8.le_iff_toNat_le, UInt8.toNat_ofNat]
theorem namechar_class (lo : Nat) (hi : Option Nat) (c : UInt8) :
    RxItem.has ⟨[(45, 57), (65, 90), (95, 95), (97, 122)], lo, hi⟩ c = true ↔ IsNameChar c := by
  simp only [RxItem.has, IsNameChar, IsLetter, IsDigit, List.any_cons, List.any_nil, Bool.or_false, Bool.or_eq_true,
    Bool.and_eq_true, decide_eq_true_eq, UInt8.le_iff_toNat_le, ← UInt8.toNat_inj, UInt8.toNat_ofNat]
  constructor
  · rintro (h | h | h | h)
    · -- `-` `.` `/` and the digits are one range
      by_cases h' : 48 ≤ c.toNat
      · exact Or.inr (Or.inl ⟨h', h.2⟩)
      · exact Or.inr (Or.inr (Or.inr (by omega)))
    · exact Or.inl (Or.inl h)
    · exact Or.inr (Or.inr (Or.inl (by omega)))
    · exact Or.inl (Or.inr h)
  · rintro ((h | h) | h | h | h | h | h)
    · exact Or.inr (Or.inl h)
    · exact Or.inr (Or.inr (Or.inr h))
    · exact Or.inl (by omega)
    · exact Or.inr (Or.inr (Or.inl (by omega)))
    · exact Or.inl (by omega)
    · exact Or.inl (by omega)
    · exact Or.inl (by omega)
theorem ascii_class (lo : Nat) (hi : Option Nat) (c : UInt8) :
    RxItem.has ⟨[(1, 127)], lo, hi⟩ c = true ↔ (1 ≤ c ∧ c ≤ 127) := by
  simp only [RxItem.has, List.any_cons, List.any_nil, Bool.or_false, Bool.and_eq_true,
    decide_eq_true_eq, UInt8.le_iff_toNat_le, UInt8.toNat_ofNat]

/-- **an instrument is created for exactly the names of the form letter followed by up to 254 name characters** -/
theorem validName_iff (s : Bytes) : validName s = true ↔ NameSyntax s := by
  unfold validName validNameWith seen NameSyntax
  rw [validators_see_whole_view.1, if_pos rfl, rxMatch_iff_lang, name_regex]
  simp only [lang_cons_one, lang_last, letter_class, namechar_class]

/-- **…and units of at most 63 ASCII characters** -/
theorem validUnit_iff (u : Bytes) : validUnit u = true ↔ UnitSyntax u := by
  unfold validUnit validUnitWith seen UnitSyntax
  rw [validators_see_whole_view.2, if_pos rfl, rxMatch_iff_lang, unit_regex]
  simp only [lang_last, ascii_class]

example : NameSyntax [114, 101, 113, 46, 99] := ⟨114, [101, 113, 46, 99], rfl, by decide, by decide, by decide⟩   -- "req.c"

/-- before the D12 fix the regex only saw the C string: `abc\0!!!` passed on its prefix `abc` (and was then stored whole) -/
theorem validName_aswas_witness :
    cstr [97, 98, 99, 0, 33, 33, 33] = [97, 98, 99] ∧ NameSyntax [97, 98, 99] ∧ ¬ NameSyntax [97, 98, 99, 0, 33, 33, 33] := by
  refine ⟨by decide, ⟨97, [98, 99], rfl, by decide, by decide, by decide⟩, ?_⟩
  rintro ⟨c, rest, h, _, _, hall⟩
  simp only [List.cons.injEq] at h
  obtain ⟨rfl, rfl⟩ := h
  exact absurd (hall 0 (by simp)) (by decide)

theorem hand_constants : Gen.handNameMaxSize = 255 ∧ Gen.handUnitMaxSize = 63 ∧ Gen.handNameExtraChars = [45, 95, 46, 47] ∧
    Gen.handNameChecksEmpty = true ∧ Gen.handUnitRejectsNul = true := ⟨rfl, rfl, rfl, rfl, rfl⟩

theorem isAlphaC_iff (c : UInt8) : isAlphaC c = true ↔ IsLetter c := by
  simp only [isAlphaC, IsLetter, Bool.or_eq_true, Bool.and_eq_true, decide_eq_true_eq]

theorem hand_namechar (c : UInt8) : (isAlnumC c || [45, 95, 46, 47].contains c) = true ↔ IsNameChar c := by
  simp only [isAlnumC, IsNameChar, IsDigit, ← isAlphaC_iff, List.contains_cons, List.contains_nil, Bool.or_false,
    Bool.or_eq_true, Bool.and_eq_true, decide_eq_true_eq, beq_iff_eq]
  -- the same six alternatives on both sides; only `-` stands two places further to the right in the grammar
  rw [or_assoc, or_left_comm (a := c = 45), or_left_comm (a := c = 45) (b := c = 46)]

theorem hand_ascii (c : UInt8) : (!((true && c == 0) || decide (c.toNat > 127))) = true ↔ (1 ≤ c ∧ c ≤ 127) := by
  simp only [Bool.true_and, Bool.not_eq_true', Bool.or_eq_false_iff, beq_eq_false_iff_ne, decide_eq_false_iff_not,
    UInt8.le_iff_toNat_le, ← UInt8.toNat_inj, UInt8.toNat_ofNat, ne_eq]
  omega

theorem validNameHand_cons (c : UInt8) (rest : Bytes) : validNameHand (c :: rest) =
    some (decide (rest.length ≤ 254) && (isAlphaC c && rest.all fun x => isAlnumC x || [45, 95, 46, 47].contains x)) := by
  obtain ⟨hNameMax, _, hExtra, _, _⟩ := hand_constants
  unfold validNameHand validNameHandWith
  rw [hNameMax, hExtra]
  by_cases hlen : rest.length ≤ 254
  · rw [if_neg (by simp; omega), decide_eq_true hlen, Bool.true_and]
  · rw [if_pos (by simp; omega), decide_eq_false hlen, Bool.false_and]

/-- the hand-written `ValidateName` accepts exactly the same grammar and never reads outside the view -/
theorem validNameHand_iff (s : Bytes) : validNameHand s ≠ none ∧ (validNameHand s = some true ↔ NameSyntax s) := by
  cases s with
  | nil =>
    -- the `name.empty()` guard of D62 answers `some false`; without it this would be `none`, the read of `name[0]`
    have h0 : validNameHand [] = some false := rfl
    exact ⟨by rw [h0]; nofun, by rw [h0]; nofun, fun ⟨_, _, h, _⟩ => nomatch h⟩
  | cons c rest =>
    rw [validNameHand_cons]
    refine ⟨nofun, ?_⟩
    simp only [Option.some_inj, Bool.and_eq_true, decide_eq_true_eq, List.all_eq_true, isAlphaC_iff, hand_namechar]
    exact ⟨fun ⟨h1, h2, h3⟩ => ⟨c, rest, rfl, h2, h1, h3⟩, fun ⟨_, _, e, h2, h1, h3⟩ => by cases e; exact ⟨h1, h2, h3⟩⟩

theorem validUnitHand_iff (u : Bytes) : validUnitHand u = true ↔ UnitSyntax u := by
  obtain ⟨_, hUnitMax, _, _, hRejectsNul⟩ := hand_constants
  unfold validUnitHand validUnitHandWith UnitSyntax
  rw [hUnitMax, hRejectsNul]
  by_cases hlen : u.length ≤ 63
  · simp only [Nat.not_lt.2 hlen, if_false, List.all_eq_true, hand_ascii, hlen, true_and]
  · simp only [Nat.not_le.1 hlen, if_true, hlen, false_and, Bool.false_eq_true]

/-- **the regex and the hand-written validators agree** on every byte string (after D12 and D62) -/
theorem validators_agree (s : Bytes) : validNameHand s = some (validName s) ∧ validUnitHand s = validUnit s := by
  refine ⟨?_, Bool.eq_iff_iff.2 ((validUnitHand_iff s).trans (validUnit_iff s).symm)⟩
  obtain ⟨hne, hiff⟩ := validNameHand_iff s
  cases hh : validNameHand s with
  | none => exact absurd hh hne
  | some b =>
    rw [hh, Option.some_inj] at hiff
    rw [Bool.eq_iff_iff.2 (hiff.trans (validName_iff s).symm)]

/-- before D62: the hand-written `ValidateName` read `name[0]` of an empty name, and the hand-written `ValidateUnit`
    accepted `a\0`, which the regex variant rejects -/
theorem hand_aswas_witness : validNameHandWith false [] = none ∧ validUnitHandWith false [97, 0] = true ∧
    validUnit [97, 0] = false :=
  ⟨by decide, by decide, Bool.eq_false_iff.2 fun hv => absurd (((validUnit_iff _).1 hv).2 0 (by simp)) (by decide)⟩

/-- **for any other name or unit the meter returns an inert instrument…** -/
theorem invalid_gives_inert (name unit : Bytes) (h : ¬ NameSyntax name ∨ ¬ UnitSyntax unit) :
    validInstrument name unit = false := by
  rw [validInstrument, Bool.and_eq_false_iff, ← Bool.not_eq_true, ← Bool.not_eq_true, validName_iff, validUnit_iff]
  exact h

/-- **…and no metric stream ever appears for it**: whatever views are registered, whatever the meter, whatever is recorded -/
theorem inert_never_streams (i : Instr) (h : validInstrument i.name i.unit = false) (enabled : Bool)
    (reg : List Registered) (sc : View.Scope) (keys : List Bytes) : exported enabled reg sc i keys = [] := by
  unfold exported; simp [h]

/-- a meter whose scope is disabled creates inert instruments only -/
theorem disabled_meter_never_streams (i : Instr) (reg : List Registered) (sc : View.Scope) (keys : List Bytes) :
    exported false reg sc i keys = [] := by
  unfold exported; simp

theorem gen_literals : Gen.patternMatchAll = [42] ∧ Gen.exactMatchAll = [] ∧ Gen.matchMeterSkipsEmpty = false ∧
    Gen.defaultViewName = [] := ⟨rfl, rfl, rfl, rfl⟩

/-- the wildcard `*` selects every name -/
theorem pattern_all : namePredOf [42] = some .all ∧ ∀ s, NamePred.all.matches s = true := by
  refine ⟨?_, fun _ => rfl⟩
  unfold namePredOf; rw [gen_literals.1]; simp

theorem pattern_matches_iff_lang (items : List RxItem) (s : Bytes) :
    (NamePred.pattern items).matches s = true ↔ Lang items s := by
  unfold NamePred.matches; exact rxMatch_iff_lang items s

/-- neither `.` nor `*` stands for itself -/
theorem literal_ne {c : UInt8} (h : isLiteralChar c = true) : c ≠ 46 ∧ c ≠ 42 :=
  -- `isLiteralChar 46` and `isLiteralChar 42` evaluate to `false`
  ⟨fun e => absurd (e ▸ h) (by decide), fun e => absurd (e ▸ h) (by decide)⟩

theorem has_single (c : UInt8) (lo : Nat) (hi : Option Nat) (x : UInt8) :
    RxItem.has ⟨[(c.toNat, c.toNat)], lo, hi⟩ x = true ↔ x = c := by
  simp only [RxItem.has, List.any_cons, List.any_nil, Bool.or_false, Bool.and_eq_true, decide_eq_true_eq, ← UInt8.toNat_inj]
  omega

/-- the language of a pattern made of literal characters only is that one string -/
theorem parse_literal : ∀ (lit : Bytes), (∀ c ∈ lit, isLiteralChar c = true) →
    ∃ items, parsePattern lit = some items ∧ ∀ s, Lang items s ↔ s = lit
  | [], _ => ⟨[], rfl, fun _ => Iff.rfl⟩
  | c :: rest, h => by
    obtain ⟨items, hp, hl⟩ := parse_literal rest (fun x hx => h x (List.mem_cons_of_mem _ hx))
    have hc := h c List.mem_cons_self
    have hatom : atomOf c = some [(c.toNat, c.toNat)] := by
      unfold atomOf; rw [if_neg (by simpa using (literal_ne hc).1), if_pos hc]
    refine ⟨⟨[(c.toNat, c.toNat)], 1, some 1⟩ :: items, ?_, fun s => ?_⟩
    · -- `rest` does not start with `*` (not a literal character), so the equation of `parsePattern` for a single
      -- character applies, not the one for the body of a repetition
      have hstar : ∀ rest', rest = 42 :: rest' → False := fun rest' e =>
        (literal_ne (h 42 (by subst e; simp))).2 rfl
      rw [parsePattern.eq_3 c rest hstar, hatom, hp]
      rfl
    · simp only [lang_cons_one, has_single, hl]
      exact ⟨fun ⟨x, s', e, hx, hs⟩ => by rw [e, hx, hs], fun e => ⟨c, rest, e, rfl, rfl⟩⟩

/-- **exact name selectors**: a pattern of literal name characters selects exactly that name -/
theorem pattern_literal_iff (lit : Bytes) (h : ∀ c ∈ lit, isLiteralChar c = true) :
    ∃ p, namePredOf lit = some p ∧ ∀ s, p.matches s = true ↔ s = lit := by
  obtain ⟨items, hp, hl⟩ := parse_literal lit h
  have hne : lit ≠ [42] := by
    rintro rfl
    exact absurd (h 42 (by simp)) (by decide)
  refine ⟨.pattern items, ?_, fun s => by rw [pattern_matches_iff_lang, hl]⟩
  unfold namePredOf
  rw [gen_literals.1]
  simp [hne, hp]

/-- unit and meter selectors: the empty selector selects everything, any other selector only the equal string -/
theorem exact_iff (pat s : Bytes) : exactMatches pat s = true ↔ pat = [] ∨ pat = s := by
  obtain ⟨_, hExactAll, _, _⟩ := gen_literals
  unfold exactMatches; rw [hExactAll]; simp

def NameSelected : NamePred → Bytes → Prop
  | .all, _ => True
  | .pattern items, s => Lang items s

/-- **a registered view applies to exactly the instruments whose type, name (exact or pattern), unit and meter identity
    match its selectors** -/
theorem view_applies_iff_selectors_match (r : Registered) (sc : View.Scope) (i : Instr) :
    applies r sc i = true ↔
      (r.isel.type = i.type ∧ NameSelected r.isel.name i.name ∧ (r.isel.unit = [] ∨ r.isel.unit = i.unit)) ∧
      ((r.msel.name = [] ∨ r.msel.name = sc.name) ∧ (r.msel.version = [] ∨ r.msel.version = sc.version) ∧
       (r.msel.schema = [] ∨ r.msel.schema = sc.schema)) := by
  obtain ⟨_, _, hSkipsEmpty, _⟩ := gen_literals
  unfold applies matchMeter matchMeterWith matchInstrument
  rw [hSkipsEmpty]
  simp only [Bool.false_and, Bool.false_or, Bool.and_eq_true, exact_iff, decide_eq_true_eq]
  have hn : r.isel.name.matches i.name = true ↔ NameSelected r.isel.name i.name := by
    cases hp : r.isel.name with
    | all => simp [NamePred.matches, NameSelected]
    | pattern items => exact pattern_matches_iff_lang items i.name
  rw [hn]
  constructor
  · rintro ⟨⟨⟨h1, h2⟩, h3⟩, ⟨h4, h5⟩, h6⟩
    exact ⟨⟨h6, h4, h5⟩, h1, h2, h3⟩
  · rintro ⟨⟨h6, h4, h5⟩, h1, h2, h3⟩
    exact ⟨⟨⟨h1, h2⟩, h3⟩, ⟨h4, h5⟩, h6⟩

/-- before the D13 fix a meter without version / schema URL was matched by a selector that names one:
    selector `(m, 2.0, http://x)` against meter `(m, "", "")` -/
theorem matchMeter_aswas_witness :
    matchMeterWith true ⟨[109], [50, 46, 48], [104, 116, 116, 112, 58, 47, 47, 120]⟩ ⟨[109], [], []⟩ = true ∧
    matchMeterWith false ⟨[109], [50, 46, 48], [104, 116, 116, 112, 58, 47, 47, 120]⟩ ⟨[109], [], []⟩ = false := by
  decide

/-- `FindViews`: the views of the registered entries that apply, in registration order; the default view when none does -/
theorem findViews_spec (reg : List Registered) (sc : View.Scope) (i : Instr) :
    ((∃ r ∈ reg, applies r sc i = true) → findViews reg sc i = (reg.filter (applies · sc i)).map (·.view)) ∧
    ((∀ r ∈ reg, applies r sc i = false) → findViews reg sc i = [defaultView]) := by
  unfold findViews
  constructor
  · rintro ⟨r, hr, ha⟩
    have hmem : r ∈ reg.filter (applies · sc i) := List.mem_filter.2 ⟨hr, ha⟩
    cases hf : reg.filter (applies · sc i) with
    | nil => rw [hf] at hmem; simp at hmem
    | cons x xs => simp
  · intro h
    have : reg.filter (applies · sc i) = [] := List.filter_eq_nil_iff.2 (fun a ha => by simp [h a ha])
    rw [this]; rfl

/-- D09: `Meter::storage_registry_` has one entry per stream (instrument name, type, value type, view index) -/
theorem storage_registry_per_stream : Gen.storageRegistryPerStream = true := rfl

theorem exported_eq (reg : List Registered) (sc : View.Scope) (i : Instr) (keys : List Bytes)
    (hv : validInstrument i.name i.unit = true) :
    exported true reg sc i keys = (findViews reg sc i).map (streamOf i · keys) := by
  unfold exported storages; simp [hv]

/-- what is exported for an instrument, and nothing else: every exported stream is the stream of a registered view that
    applies, or — when none applies — the default stream -/
theorem exported_iff (reg : List Registered) (sc : View.Scope) (i : Instr) (keys : List Bytes) (s : Stream)
    (hv : validInstrument i.name i.unit = true) :
    s ∈ exported true reg sc i keys ↔
      (∃ r ∈ reg, applies r sc i = true ∧ s = streamOf i r.view keys) ∨
      ((∀ r ∈ reg, applies r sc i = false) ∧ s = streamOf i defaultView keys) := by
  rw [exported_eq reg sc i keys hv]
  by_cases hex : ∃ r ∈ reg, applies r sc i = true
  · have hno : ¬ ∀ r ∈ reg, applies r sc i = false := fun h => by obtain ⟨r, hr, ha⟩ := hex; simp [h r hr] at ha
    rw [(findViews_spec reg sc i).1 hex]
    simp only [List.map_map, List.mem_map, List.mem_filter, Function.comp]
    exact ⟨fun ⟨r, ⟨hr, ha⟩, e⟩ => Or.inl ⟨r, hr, ha, e.symm⟩,
      fun h => h.elim (fun ⟨r, hr, ha, e⟩ => ⟨r, ⟨hr, ha⟩, e.symm⟩) (fun h => absurd h.1 hno)⟩
  · have hno : ∀ r ∈ reg, applies r sc i = false := fun r hr => Bool.eq_false_iff.2 fun ha => hex ⟨r, hr, ha⟩
    rw [(findViews_spec reg sc i).2 hno]
    simp only [List.map_cons, List.map_nil, List.mem_singleton]
    exact ⟨fun h => Or.inr ⟨hno, h⟩, fun h => h.elim (fun ⟨r, hr, ha, _⟩ => absurd ⟨r, hr, ha⟩ hex) (·.2)⟩

/-- **every registered view that applies to an instrument yields its own exported stream**, shaped by that view —
    whatever other views are registered before or after it -/
theorem view_stream_exported (reg : List Registered) (r : Registered) (sc : View.Scope) (i : Instr) (keys : List Bytes)
    (hr : r ∈ reg) (hv : validInstrument i.name i.unit = true) (ha : applies r sc i = true) :
    streamOf i r.view keys ∈ exported true reg sc i keys :=
  (exported_iff reg sc i keys _ hv).2 (Or.inl ⟨r, hr, ha, rfl⟩)

/-- one stream per applying view, in registration order and with multiplicity: two views that shape identical streams
    (for instance by renaming to the same stream name) still yield two streams -/
theorem exported_count (reg : List Registered) (sc : View.Scope) (i : Instr) (keys : List Bytes)
    (hv : validInstrument i.name i.unit = true) (hex : ∃ r ∈ reg, applies r sc i = true) :
    exported true reg sc i keys = (reg.filter (applies · sc i)).map (fun r => streamOf i r.view keys) := by
  rw [exported_eq reg sc i keys hv, (findViews_spec reg sc i).1 hex]
  simp [List.map_map, Function.comp]

theorem aswas_last_only (pre post : List Registered) (r : Registered) (sc : View.Scope) (i : Instr)
    (keys : List Bytes) (hv : validInstrument i.name i.unit = true) (ha : applies r sc i = true)
    (hlast : ∀ r' ∈ post, applies r' sc i = false) :
    exportedAsWas true (pre ++ r :: post) sc i keys = [streamOf i r.view keys] := by
  have hpost : post.filter (applies · sc i) = [] := List.filter_eq_nil_iff.2 (fun a ha' => by simp [hlast a ha'])
  have hfilter : (pre ++ r :: post).filter (applies · sc i) = pre.filter (applies · sc i) ++ [r] := by
    rw [List.filter_append, List.filter_cons, if_pos ha, hpost]
  have hfind : findViews (pre ++ r :: post) sc i = (pre.filter (applies · sc i)).map (·.view) ++ [r.view] := by
    rw [(findViews_spec _ sc i).1 ⟨r, by simp, ha⟩, hfilter]; simp
  unfold exportedAsWas storages
  rw [hfind]
  simp [hv]

/-- the counter `reqs` (no unit) of the two witnesses below is a valid instrument -/
theorem reqs_valid : validInstrument [114, 101, 113, 115] [] = true := by
  unfold validInstrument
  rw [(validName_iff _).2 ⟨114, [101, 113, 115], rfl, by decide, by decide, by decide⟩,
    (validUnit_iff _).2 ⟨by decide, fun _ h => absurd h List.not_mem_nil⟩]
  rfl

/-- D09, the registry as it was (keyed by the instrument name): two applying views, only the later one's stream was
    exported (views `*`→`first` and `*`→`second` on counter `reqs`); now both are -/
theorem view_shadowed_aswas_witness :
    let v1 : View := ⟨[102, 105, 114, 115, 116], [], [], .sum, none, none⟩
    let v2 : View := ⟨[115, 101, 99, 111, 110, 100], [], [], .sum, none, none⟩
    let sel : InstrSel := ⟨.counter, .all, []⟩
    let i : Instr := ⟨.counter, [114, 101, 113, 115], [], []⟩
    let sc : View.Scope := ⟨[109], [], []⟩
    let reg : List Registered := [⟨sel, ⟨[], [], []⟩, v1⟩, ⟨sel, ⟨[], [], []⟩, v2⟩]
    exportedAsWas true reg sc i [[97], [98]] = [streamOf i v2 [[97], [98]]] ∧
    streamOf i v1 [[97], [98]] ∉ exportedAsWas true reg sc i [[97], [98]] ∧
    exported true reg sc i [[97], [98]] = [streamOf i v1 [[97], [98]], streamOf i v2 [[97], [98]]] := by
  intro v1 v2 sel i sc reg
  have hv : validInstrument i.name i.unit = true := reqs_valid
  have he : exportedAsWas true reg sc i [[97], [98]] = [streamOf i v2 [[97], [98]]] :=
    aswas_last_only (pre := [⟨sel, ⟨[], [], []⟩, v1⟩]) (r := ⟨sel, ⟨[], [], []⟩, v2⟩) (post := []) (hv := hv) (ha := by decide)
      (hlast := fun _ h => absurd h List.not_mem_nil) ..
  -- with the instrument valid, what is exported now is the computation of `storages` on the two views
  exact ⟨he, by rw [he]; decide, by rw [exported_eq (hv := hv)]; decide⟩

/-- two views that rename to the same stream name: both streams are exported (same name, their own aggregations) -/
theorem same_stream_name_both_exported :
    let v1 : View := ⟨[115], [], [], .sum, none, none⟩
    let v2 : View := ⟨[115], [], [], .lastValue, none, none⟩
    let sel : InstrSel := ⟨.counter, .all, []⟩
    let i : Instr := ⟨.counter, [114, 101, 113, 115], [], []⟩
    let sc : View.Scope := ⟨[109], [], []⟩
    exported true [⟨sel, ⟨[], [], []⟩, v1⟩, ⟨sel, ⟨[], [], []⟩, v2⟩] sc i [[97]] =
      [⟨[115], [], [], .counter, .sum, [[97]], none⟩, ⟨[115], [], [], .counter, .lastValue, [[97]], none⟩] := by
  intro v1 v2 sel i sc
  -- the instrument is valid; what is left is the computation of `storages` on the two views
  rw [exported_eq (hv := reqs_valid)]
  decide

def entryKey (i : Instr) (isDouble : Bool) (idx : Nat) : Key := ⟨i.name, i.type, isDouble, idx⟩

theorem mem_keys {st : List Entry} {k : Key} : st.any (fun e => decide (e.key = k)) = true ↔ k ∈ st.map (·.key) := by
  simp only [List.any_eq_true, decide_eq_true_eq, List.mem_map]

/-- keys of the instrument from view index `n` on are new to the registry: each view found gets a storage of its own -/
theorem attachAll_fresh (i : Instr) (dbl : Bool) (v : Nat) : ∀ (l : List Stream) (n : Nat) (st : List Entry),
    (∀ idx, n ≤ idx → entryKey i dbl idx ∉ st.map (·.key)) →
    attachAll st i dbl v (l.zipIdx n) = st ++ (l.zipIdx n).map (fun p => ⟨entryKey i dbl p.2, p.1, [v]⟩) := by
  intro l
  induction l with
  | nil => intro n st _; exact (List.append_nil st).symm
  | cons s rest ih =>
    intro n st h
    have hn : ¬ (st.any fun e => decide (e.key = (⟨i.name, i.type, dbl, n⟩ : Key))) = true :=
      mt mem_keys.1 (h n (Nat.le_refl n))
    rw [List.zipIdx_cons, attachAll, attachOrAdd, if_neg hn, ih (n + 1), List.map_cons, List.append_assoc]
    · rfl
    · intro idx hidx
      rw [List.map_append, List.mem_append, not_or]
      exact ⟨h idx (by omega), fun hk => by cases List.mem_singleton.1 hk; omega⟩

/-- **the first handle of an instrument registers one storage per view found**: for an instrument whose name, type and
    value type are new to the meter, the registry grows by exactly its streams, each holding the recorded value -/
theorem first_handle_registers_streams (reg : List Registered) (sc : View.Scope) (keys : List Bytes) (st : List Entry)
    (i : Instr) (dbl : Bool) (v : Nat) (hv : validInstrument i.name i.unit = true)
    (hnew : ∀ e ∈ st, ∀ idx, e.key ≠ entryKey i dbl idx) :
    createAndRecord true reg sc keys st i dbl v =
      st ++ ((exported true reg sc i keys).zipIdx).map (fun p => ⟨entryKey i dbl p.2, p.1, [v]⟩) := by
  unfold createAndRecord exported
  simp only [hv, Bool.not_true, Bool.or_false, Bool.false_eq_true, if_false]
  refine attachAll_fresh i dbl v (l := _) (n := 0) (st := st) fun idx _ hk => ?_
  obtain ⟨e, he, hk⟩ := List.mem_map.1 hk
  exact hnew e he idx hk

/-- recording into a registered storage changes nothing but its values -/
theorem attachOrAdd_present {α} (f : Entry → α) (hf : ∀ e vs, f { e with values := vs } = f e) (st : List Entry)
    (k : Key) (s : Stream) (v : Nat) (h : k ∈ st.map (·.key)) : (attachOrAdd st k s v).map f = st.map f := by
  rw [attachOrAdd, if_pos (mem_keys.2 h), List.map_map]
  refine List.map_congr_left fun e _ => ?_
  simp only [Function.comp]
  split
  · exact hf _ _
  · rfl

theorem attachAll_present {α} (f : Entry → α) (hf : ∀ e vs, f { e with values := vs } = f e) (i : Instr) (dbl : Bool)
    (v : Nat) : ∀ (L : List (Stream × Nat)) (st : List Entry), (∀ p ∈ L, entryKey i dbl p.2 ∈ st.map (·.key)) →
    (attachAll st i dbl v L).map f = st.map f
  | [], _, _ => rfl
  | (s, idx) :: rest, st, h => by
    have hk : (⟨i.name, i.type, dbl, idx⟩ : Key) ∈ st.map (·.key) := h (s, idx) List.mem_cons_self
    rw [attachAll, attachAll_present f hf i dbl v rest, attachOrAdd_present f hf st _ s v hk]
    intro q hq
    rw [attachOrAdd_present (·.key) (fun _ _ => rfl) st _ s v hk]
    exact h q (List.mem_cons_of_mem _ hq)

/-- **a second handle of the same instrument adds no stream**: when the storages of the instrument are registered
    already (one per view found), a further handle attaches to them — the registry keeps its keys and its streams, only
    the recorded values grow -/
theorem second_handle_no_new_stream (reg : List Registered) (sc : View.Scope) (keys : List Bytes) (st : List Entry)
    (i : Instr) (dbl : Bool) (v : Nat)
    (hreg : ∀ idx, idx < (storages reg sc i keys).length → ∃ e ∈ st, e.key = entryKey i dbl idx) (en : Bool) :
    (createAndRecord en reg sc keys st i dbl v).map (·.key) = st.map (·.key) ∧
    (createAndRecord en reg sc keys st i dbl v).map (·.stream) = st.map (·.stream) := by
  have hk : ∀ p ∈ (storages reg sc i keys).zipIdx, entryKey i dbl p.2 ∈ st.map (·.key) := fun p hp => by
    obtain ⟨e, he, hk⟩ := hreg p.2 (by have := List.mem_zipIdx hp; omega)
    exact List.mem_map.2 ⟨e, he, hk⟩
  unfold createAndRecord
  split
  · exact ⟨rfl, rfl⟩
  · -- neither the key nor the stream of an entry depends on its values
    exact ⟨attachAll_present (·.key) (hf := fun _ _ => rfl) i dbl v (L := _) (st := st) hk,
      attachAll_present (·.stream) (hf := fun _ _ => rfl) i dbl v (L := _) (st := st) hk⟩

/-- after the first handle the hypothesis of `second_handle_no_new_stream` holds: creating the same instrument twice
    leaves the streams the first creation registered -/
theorem handle_twice (reg : List Registered) (sc : View.Scope) (keys : List Bytes) (st : List Entry)
    (i : Instr) (dbl : Bool) (v1 v2 : Nat) (hv : validInstrument i.name i.unit = true)
    (hnew : ∀ e ∈ st, ∀ idx, e.key ≠ entryKey i dbl idx) :
    (createAndRecord true reg sc keys (createAndRecord true reg sc keys st i dbl v1) i dbl v2).map (·.stream) =
      (createAndRecord true reg sc keys st i dbl v1).map (·.stream) := by
  refine (second_handle_no_new_stream reg sc keys _ i dbl v2 ?_ true).2
  intro idx hidx
  rw [first_handle_registers_streams reg sc keys st i dbl v1 hv hnew]
  rw [show exported true reg sc i keys = storages reg sc i keys from exported_eq reg sc i keys hv]
  obtain ⟨s, hs⟩ : ∃ s, (storages reg sc i keys)[idx]? = some s := ⟨_, List.getElem?_eq_getElem hidx⟩
  refine ⟨⟨entryKey i dbl idx, s, [v1]⟩, ?_, rfl⟩
  apply List.mem_append_right
  exact List.mem_map.2 ⟨(s, idx), List.mem_zipIdx_iff_getElem?.2 (by simpa using hs), rfl⟩

/-- the default explicit bucket boundaries, and D63: the observable path hands the view's aggregation config on -/
theorem histogram_defaults : Gen.defaultHistogramBounds = [0, 5, 10, 25, 50, 75, 100, 250, 500, 750, 1000, 2500, 5000, 7500, 10000] ∧
    Gen.asyncStorageUsesConfig = true := ⟨rfl, rfl⟩

/-- **then its name, description, aggregation and attribute filter shape the exported stream**: the stream's name and
    description are the view's unless empty, the aggregation is the view's (the type default for `kDefault`) and, for a
    histogram, its bucket boundaries are the view's configured ones (the defaults without a configuration) — for
    synchronous and observable instruments alike; unit and type stay the instrument's. -/
theorem view_shapes_stream (i : Instr) (v : View) (keys : List Bytes) :
    (streamOf i v keys).name = (if v.name = [] then i.name else v.name) ∧
    (streamOf i v keys).description = (if v.description = [] then i.description else v.description) ∧
    (streamOf i v keys).agg = (if v.agg = .default then defaultAgg i.type else v.agg) ∧
    (streamOf i v keys).bounds = (if (streamOf i v keys).agg = .histogram
      then some (match v.bounds with
                 | some b => b
                 | none => [0, 5, 10, 25, 50, 75, 100, 250, 500, 750, 1000, 2500, 5000, 7500, 10000])
      else none) ∧
    (streamOf i v keys).unit = i.unit ∧ (streamOf i v keys).type = i.type := by
  unfold streamOf resolveAgg
  rw [histogram_defaults.1]
  refine ⟨?_, ?_, rfl, ?_, rfl, rfl⟩
  · cases h : v.name <;> simp
  · cases h : v.description <;> simp
  · cases hb : v.bounds <;> simp

/-- the attribute filter: exactly the measured keys the view allows — as the code is, only for synchronous instruments
    (or views without a filter): observable instruments ignore it (D22) -/
theorem view_shapes_stream_filter_partial (i : Instr) (v : View) (keys : List Bytes)
    (h : i.type.observable = false ∨ v.filter = none) :
    (v.filter = none → (streamOf i v keys).keys = keys) ∧
    (∀ allowed, v.filter = some allowed → (streamOf i v keys).keys = keys.filter (fun k => allowed.contains k)) := by
  unfold streamOf filterKeys
  constructor
  · intro hn; simp [hn]
  · intro allowed ha
    rcases h with h | h
    · simp [h, ha]
    · rw [ha] at h; simp at h

/-- the witness for D22: observable counter, view with allow-list `{a}`, measurement with keys `a`, `b` -/
theorem view_filter_ignored_witness :
    (streamOf ⟨.obsCounter, [111], [], []⟩ ⟨[], [], [], .default, some [[97]], none⟩ [[97], [98]]).keys = [[97], [98]] ∧
    (streamOf ⟨.counter, [111], [], []⟩ ⟨[], [], [], .default, some [[97]], none⟩ [[97], [98]]).keys = [[97]] := by
  decide

/-- **and nothing else**: the view's own `unit` (stored by `View`, never read) has no influence on the stream -/
theorem view_unit_irrelevant (i : Instr) (v : View) (u : Bytes) (keys : List Bytes) :
    streamOf i { v with unit := u } keys = streamOf i v keys := rfl

/-- the type defaults: sums for (observable) counters and up-down counters, a histogram for histograms, the last value
    for gauges -/
theorem default_aggregation_table :
    defaultAgg .counter = .sum ∧ defaultAgg .obsCounter = .sum ∧ defaultAgg .upDownCounter = .sum ∧
    defaultAgg .obsUpDownCounter = .sum ∧ defaultAgg .histogram = .histogram ∧ defaultAgg .obsGauge = .lastValue ∧
    defaultAgg .gauge = .lastValue := by decide

/-- **instruments matched by no view get the default aggregation for their type**, their own name, description and
    unit, and all measured attributes -/
theorem unmatched_gets_type_default (reg : List Registered) (sc : View.Scope) (i : Instr) (keys : List Bytes)
    (hv : validInstrument i.name i.unit = true) (hno : ∀ r ∈ reg, applies r sc i = false) :
    exported true reg sc i keys = [⟨i.name, i.description, i.unit, i.type, defaultAgg i.type, keys,
      if defaultAgg i.type = .histogram then some Gen.defaultHistogramBounds else none⟩] := by
  unfold exported storages
  rw [(findViews_spec reg sc i).2 hno]
  simp only [hv, Bool.not_true, Bool.or_false, Bool.false_eq_true, if_false, List.map_cons, List.map_nil]
  obtain ⟨_, _, _, hDefaultName⟩ := gen_literals
  unfold streamOf defaultView resolveAgg filterKeys
  rw [hDefaultName]
  simp

section Scopes
open Otel.Scope

/-- the configurator is a first-match search -/
theorem computeConfig_eq_find (rules : List Rule) (dflt : Bool) (id : Ident) :
    computeConfig rules dflt id = ((rules.find? (·.matcher.holds id)).map (·.enabled)).getD dflt := by
  induction rules with
  | nil => rfl
  | cons r rest ih => rw [computeConfig, List.find?_cons, ih]; cases r.matcher.holds id <;> rfl

/-- **conditions are evaluated in order, the first match wins** -/
theorem configurator_first_match (pre post : List Rule) (r : Rule) (dflt : Bool) (id : Ident)
    (hr : r.matcher.holds id = true) (hpre : ∀ r' ∈ pre, r'.matcher.holds id = false) :
    computeConfig (pre ++ r :: post) dflt id = r.enabled := by
  rw [computeConfig_eq_find, List.find?_append, List.find?_eq_none.2 fun r' h => by simp [hpre r' h]]
  simp only [Option.none_or, List.find?_cons, hr, Option.map_some, Option.getD_some]

/-- **else the default** -/
theorem configurator_default (rules : List Rule) (dflt : Bool) (id : Ident)
    (h : ∀ r ∈ rules, r.matcher.holds id = false) : computeConfig rules dflt id = dflt := by
  rw [computeConfig_eq_find, List.find?_eq_none.2 fun r hr => by simp [h r hr]]
  rfl

example : computeConfig [⟨.nameEq [111], false⟩, ⟨.any, true⟩] false ⟨[111], [], [], [], []⟩ = false := by decide

/-- the `for` loop over the instances is a first-match search -/
theorem indexOf?_eq_findIdx? (st : Instances) (id : Ident) : indexOf? st id = st.findIdx? (· = id) := by
  induction st with
  | nil => rfl
  | cons x rest ih => rw [indexOf?, List.findIdx?_cons, ih]; simp only [decide_eq_true_eq]

/-- the instances of a provider have different identities (`Nodup`): a lookup extends the list only by an identity that
    is not in it, and hands out an instance of the requested identity -/
theorem getInstance_spec (st : Instances) (id : Ident) (hd : st.Nodup) :
    st <+: (getInstance st id).1 ∧ (getInstance st id).1[(getInstance st id).2]? = some id ∧ (getInstance st id).1.Nodup := by
  unfold getInstance
  rw [indexOf?_eq_findIdx?]
  cases h : st.findIdx? (· = id) with
  | some i =>
    obtain ⟨hi, he, _⟩ := List.findIdx?_eq_some_iff_getElem.1 h
    exact ⟨List.prefix_refl st, by rw [List.getElem?_eq_getElem hi, of_decide_eq_true he], hd⟩
  | none =>
    have hn : id ∉ st := fun hm => by simpa using List.findIdx?_eq_none_iff.1 h id hm
    exact ⟨List.prefix_append st [id], by simp,
      List.nodup_append.2 ⟨hd, List.nodup_cons.2 ⟨List.not_mem_nil, List.nodup_nil⟩,
        fun a ha b hb => by cases List.mem_singleton.1 hb; exact fun e => hn (e ▸ ha)⟩⟩

/-- every request is answered by an instance created for exactly the requested identity; earlier instances stay -/
theorem run_spec (rules : List Rule) (dflt : Bool) : ∀ (reqs : List Ident) (st : Instances), st.Nodup →
    ∃ final, st <+: final ∧ final.Nodup ∧
      ∀ (k : Nat) (id : Ident) (o : Obs), reqs[k]? = some id → (runRequests rules dflt st reqs)[k]? = some o →
        final[o.instance_]? = some id ∧ o.exported = (if computeConfig rules dflt id then 1 else 0) := by
  intro reqs
  induction reqs with
  | nil => intro st hd; exact ⟨st, List.prefix_refl st, hd, by intro k id o h; simp at h⟩
  | cons r rest ih =>
    intro st hd
    obtain ⟨hp1, hget, hd1⟩ := getInstance_spec st r hd
    obtain ⟨final, hp2, hdf, hall⟩ := ih (getInstance st r).1 hd1
    refine ⟨final, hp1.trans hp2, hdf, fun k id o hk ho => ?_⟩
    cases k with
    | zero =>
      -- the first request: its instance is in `(getInstance st r).1`, which `final` extends
      cases hk
      obtain rfl : (request rules dflt st r).2 = o := Option.some.inj ho
      obtain ⟨ext, rfl⟩ := hp2
      exact ⟨(List.getElem?_append_left (List.getElem?_eq_some_iff.1 hget).1).trans hget, by simp only [request, hget]⟩
    | succ k' => exact hall k' id o hk ho    -- a later request: it runs from `(getInstance st r).1`

/-- **requesting the same name / version / schema / attributes returns the same tracer, meter or logger** — and a
    different identity a different one — over every history of requests to a provider -/
theorem same_identity_same_instance (rules : List Rule) (dflt : Bool) (reqs : List Ident) (a b : Nat) (ida idb : Ident)
    (oa ob : Obs) (ha : reqs[a]? = some ida) (hb : reqs[b]? = some idb)
    (hoa : (runRequests rules dflt [] reqs)[a]? = some oa) (hob : (runRequests rules dflt [] reqs)[b]? = some ob) :
    oa.instance_ = ob.instance_ ↔ ida = idb := by
  obtain ⟨final, _, hdf, hall⟩ := run_spec rules dflt reqs [] List.nodup_nil
  have h1 : final[oa.instance_]? = some ida := (hall a ida oa ha hoa).1
  have h2 : final[ob.instance_]? = some idb := (hall b idb ob hb hob).1
  constructor
  · intro h; rw [h, h2] at h1; exact (Option.some.inj h1).symm
  · -- no identity occurs twice among the instances, so the two indices of `ida` are one
    rintro rfl
    exact (List.getElem?_inj (List.getElem?_eq_some_iff.1 h1).1 hdf).1 (h1.trans h2.symm)

/-- the enabled flag of an instance is the configurator's verdict on its identity: every request exports its item
    exactly when the scope is enabled (computed once, the same at every later request for that identity) -/
theorem instance_config_fixed (rules : List Rule) (dflt : Bool) (reqs : List Ident) (k : Nat) (id : Ident) (o : Obs)
    (hk : reqs[k]? = some id) (ho : (runRequests rules dflt [] reqs)[k]? = some o) :
    o.exported = (if computeConfig rules dflt id then 1 else 0) := by
  obtain ⟨final, _, _, hall⟩ := run_spec rules dflt reqs [] List.nodup_nil
  exact (hall k id o hk ho).2

/-- **a tracer, meter or logger whose scope the configurator disables produces no telemetry** -/
theorem disabled_scope_silent (rules : List Rule) (dflt : Bool) (reqs : List Ident) (k : Nat) (id : Ident) (o : Obs)
    (hk : reqs[k]? = some id) (ho : (runRequests rules dflt [] reqs)[k]? = some o)
    (hdis : computeConfig rules dflt id = false) : o.exported = 0 := by
  rw [instance_config_fixed rules dflt reqs k id o hk ho, hdis]; rfl

/-- **while differently named scopes are unaffected**: a rule that disables the scope named `n` changes nothing for
    any scope with another name (and so, by `instance_config_fixed`, nothing in what they export) -/
theorem others_unaffected (rules : List Rule) (dflt : Bool) (n : Bytes) (en : Bool) (id : Ident) (h : id.name ≠ n) :
    computeConfig (⟨.nameEq n, en⟩ :: rules) dflt id = computeConfig rules dflt id := by
  simp [computeConfig, Matcher.holds, h]

example : (runRequests [⟨.nameEq [111], false⟩] true [] [⟨[111], [], [], [], []⟩, ⟨[120], [], [], [], []⟩, ⟨[111], [], [], [], []⟩]) =
    [⟨0, 0⟩, ⟨1, 1⟩, ⟨0, 0⟩] := by decide

end Scopes

end Otel.C19
