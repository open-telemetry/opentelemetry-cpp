import OtelVerif.Lemmas.Batch.Main
/-! # C02 — ForceFlush and Shutdown are complete, final and always return

Theorems about the batch processors' protocol model `Model/BatchAbs.lean`, for every schedule with any number of
producers, concurrent `ForceFlush` callers and `Shutdown` callers (the destructor path is one more caller), every
timeout value (a waiting `ForceFlush` caller may give up at any moment) and any exporter results (the protocol never
looks at them).  `head` counts the records committed to the queue; record number `k` is *exported* when
`k < exported`.  Ghosts: `bh` = `head` when a `ForceFlush` call began, `sdHead` = `head` when `is_shutdown` was set,
`flushedUpTo` = `exported` when the exporter's own `ForceFlush` last returned. -/
namespace Otel.C02
open Otel Otel.Batch

section batch
variable {maxQ maxB : Nat} (hb : 1 ≤ maxB) {as : List Act} {s : St} (h : run (init maxQ maxB) as = some s)
include hb h

/-- **ForceFlush complete**: if a `ForceFlush` call returned true, every record committed before the call began had
    been passed to `Export` when the exporter's own `ForceFlush` was invoked for it, and that has happened -/
theorem flush_complete (f bh : Nat) (hf : s.fl f = .ret bh true) : bh ≤ s.flushedUpTo ∧ s.flushedUpTo ≤ s.exported := by
  have hI := reachable_inv maxQ maxB hb as s h
  have := hI.f f
  unfold FInv at this; rw [hf] at this
  exact ⟨this rfl, hI.fluLe⟩

/-- a published ticket is always backed by an exporter flush that covered everything queued when it was issued -/
theorem published_tickets_flushed (t : Nat) (h1 : 1 ≤ t) (h2 : t ≤ s.notified) : s.tickHead t ≤ s.flushedUpTo :=
  (reachable_inv maxQ maxB hb as s h).ticks t h1 h2

/-- **the exporter is shut down at most once**, however many callers, threads and destructor paths -/
theorem exporter_shutdown_at_most_once : s.expShutdowns ≤ 1 := (reachable_inv maxQ maxB hb as s h).sdOnce

/-- … and **exactly once** as soon as some `Shutdown` call has returned; by then the worker has finished, has been
    joined, and everything committed before `is_shutdown` was set has been exported -/
theorem shutdown_returned (hr : s.sdReturned = true) :
    s.expShutdowns = 1 ∧ s.wpc = .done ∧ s.joined = true ∧ s.isShutdown = true ∧ s.sdHead ≤ s.exported ∧ s.exported = s.tail := by
  have hI := reachable_inv maxQ maxB hb as s h
  obtain ⟨a, b, c, d⟩ := hI.retd hr
  exact ⟨b, d, c, a, hI.at_done d⟩

/-- **Shutdown drains**: whenever a `Shutdown` caller is past the join (about to shut the exporter down, or later), the
    worker has finished and every record committed before `is_shutdown` was set has been exported -/
theorem shutdown_drains (i : Nat) (hs : s.sd i = .expB ∨ s.sd i = .expE ∨ s.sd i = .unlockP) :
    s.wpc = .done ∧ s.sdHead ≤ s.exported := by
  have hI := reachable_inv maxQ maxB hb as s h
  have hsd := hI.sd i
  unfold SInv at hsd
  have hd : s.wpc = .done := by
    rcases hs with hs | hs | hs <;> (rw [hs] at hsd; exact hsd.2.2.1)
  exact ⟨hd, (hI.at_done hd).1⟩

/-- **no exporter call after Shutdown has returned**: the ghost counter of `Export` / `ForceFlush` / `Shutdown` calls
    begun after some `Shutdown` call had returned stays zero -/
theorem no_exporter_call_after_shutdown_returned : s.lateCalls = 0 := (reachable_inv maxQ maxB hb as s h).late

omit hb h

/-- once the worker has finished nothing is exported any more (every step leaves `exported` unchanged) -/
theorem no_export_after_done (hd : s.wpc = .done) (a : Act) (s' : St) (hs : step s a = some s') :
    s'.exported = s.exported ∧ s'.wpc = .done ∧ s'.inExport = s.inExport := by
  cases ha : isW a with
  | true =>
    cases a with
    | wWake => simp [step, hd] at hs
    | wStep => simp [step, wStep, hd] at hs
    | _ => cases ha
  | false =>
    have o := other_step s s' a ha hs
    exact ⟨o.exported, o.wpc.trans hd, o.inExport⟩

/-- `is_shutdown` is never reset -/
theorem shutdown_is_final (hsd : s.isShutdown = true) (a : Act) (s' : St) (hs : step s a = some s') :
    s'.isShutdown = true := by
  cases ha : isW a with
  | true => rw [(worker_step s s' a ha hs).isShutdown]; exact hsd
  | false => exact (other_step s s' a ha hs).isShutdown hsd

/-- **late calls are no-ops** — `OnEnd` / `OnEmit`: a producer that finds `is_shutdown` set returns without touching
    the queue -/
theorem late_onend_is_noop (s s' : St) (p : Nat) (hsd : s.isShutdown = true) (hp : s.pr p = .chk) (d : Bool)
    (hs : step s (.pStep p d) = some s') : s'.pr p = .noop ∧ s'.head = s.head ∧ s'.begun = s.begun := by
  simp only [step, pStep, hp] at hs; rw [if_pos hsd] at hs; cases hs
  exact ⟨by simp, rfl, rfl⟩

/-- … `ForceFlush`: a caller that finds `is_shutdown` set returns false without taking a ticket -/
theorem late_forceflush_returns_false (s s' : St) (f bh : Nat) (hsd : s.isShutdown = true) (hf : s.fl f = .chk bh) (r : Bool)
    (hs : step s (.fStep f r) = some s') : s'.fl f = .ret bh false ∧ s'.pending = s.pending := by
  simp only [step, fStep, hf] at hs; rw [if_pos hsd] at hs; cases hs
  exact ⟨by simp, rfl⟩

/-- … `Shutdown`: a caller that arrives after a completed shutdown (worker joined) goes straight to the unlock and
    returns without calling the exporter -/
theorem late_shutdown_is_noop (s s' : St) (i : Nat) (hsd : s.isShutdown = true) (hj : s.joined = true) (hi : s.sd i = .locked)
    (hs : step s (.sStep i) = some s') : s'.sd i = .unlockP ∧ s'.expShutdowns = s.expShutdowns := by
  simp only [step, sStep, hi] at hs; cases hs
  exact ⟨by simp [hsd, hj], rfl⟩

end batch

/-! ## Termination, in the form a model can carry

Under an adversarial scheduler nothing terminates; what the model can show is that a pending `ForceFlush` / `Shutdown`
is never stuck: the worker can always take a step until it has finished, a waiting `ForceFlush` caller can always
observe or give up, and after `is_shutdown` the worker's drain loop makes progress.  Fairness is the trusted part. -/

/-- the worker is never stuck: unless it is idle (then a wake-up is enabled) or has finished, its next step is enabled -/
theorem worker_never_stuck (s : St) : (s.wpc = .done) ∨ (step s .wWake).isSome = true ∨ (step s .wStep).isSome = true := by
  cases hpc : s.wpc with
  | idle => right; left; simp [step, hpc]
  | done => left; rfl
  | _ => right; right; simp only [step, wStep, hpc]; (repeat' split) <;> rfl

/-- a waiting `ForceFlush` caller can always make a step (observe `notified` again, or return once it has observed) -/
theorem flusher_never_stuck (s : St) (f : Nat) (hf : ∀ bh ok, s.fl f ≠ .ret bh ok) : (step s (.fStep f false)).isSome = true := by
  cases hpc : s.fl f with
  | ret bh ok => exact absurd hpc (hf _ _)
  | chk bh => simp only [step, fStep, hpc]; split <;> simp
  | _ => simp [step, fStep, hpc]

/-- a `Shutdown` caller waits only for `shutdown_m` (held by another caller, who is never stuck in turn) and for the
    worker to finish -/
theorem shutdown_blocked_only_by (s : St) (i : Nat) (hne : s.sd i ≠ .ret) (hb : (step s (.sStep i)).isSome = false) :
    (s.sd i = .begin ∧ s.sdLock ≠ none) ∨ (∃ a, s.sd i = .joinW a ∧ s.wpc ≠ .done) := by
  cases hpc : s.sd i with
  | ret => exact absurd hpc hne
  | begin =>
    -- enabled exactly when the lock is free
    refine Or.inl ⟨rfl, fun hn => ?_⟩
    simp [step, sStep, hpc, hn] at hb
  | joinW a =>
    -- enabled exactly when the worker has finished
    refine Or.inr ⟨a, rfl, fun hd => ?_⟩
    simp [step, sStep, hpc, hd] at hb
  | idle | locked | expB | expE | unlockP =>
    -- always enabled
    simp [step, sStep, hpc] at hb

/-! ## Non-vacuity: a ForceFlush that returns true, and a complete shutdown, are reachable -/
def demoFlush : List Act :=
  [.pStep 0 false, .pStep 0 false, .pStep 0 false,          -- one record committed
   .fStep 0 false, .fStep 0 false, .fStep 0 false,          -- ForceFlush: begin, is_shutdown false, ticket 1
   .wWake, .wStep, .wStep, .wStep, .wStep, .wStep, .wStep,  -- chk, ticket, size, consume, exportB, exportE
   .wStep, .wStep, .wStep, .wStep, .wStep,                  -- nChk, flushB, flushE, pubLd, pubCas (publishes)
   .fStep 0 false, .fStep 0 true]                           -- observe notified = 1, return
example : (run (init 2 1) demoFlush).map (fun s => (s.fl 0, s.exported, s.flushedUpTo, s.notified)) =
    some (.ret 1 true, 1, 1, 1) := by decide

end Otel.C02
