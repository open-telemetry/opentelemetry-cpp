import OtelVerif.Model.TraceContext
import OtelVerif.Lemmas.Bytes
/-! # C09 — W3C trace-context propagation round-trips and only accepts well-formed headers

Property theorems about `Model/TraceContext.lean` (which mirrors `http_trace_context.h`, `detail/hex.h`,
`detail/string.h`, `string_util.h`); the digit tables, `kHexDigits` and the size constants come from
`Gen/Hex.lean`, re-extracted from the source on every run.  The numbers of the property text
(55, 32, 16, 2, version `ff`) are literals here. -/
namespace Otel.C09
open Otel Otel.TraceContext

/-! The specification vocabulary is written from the W3C text, independent of the code's tables. -/

def lowerDigit (n : Nat) : UInt8 := if n < 10 then UInt8.ofNat (48 + n) else UInt8.ofNat (87 + n)

def lowerHex (bs : Bytes) : Bytes := bs.flatMap fun b => [lowerDigit (b.toNat / 16), lowerDigit (b.toNat % 16)]

/-- `HEXDIG`, either case -/
def IsHexChar (c : UInt8) : Prop := (48 ≤ c ∧ c ≤ 57) ∨ (97 ≤ c ∧ c ≤ 102) ∨ (65 ≤ c ∧ c ≤ 70)

instance : DecidablePred IsHexChar := fun c => by unfold IsHexChar; exact inferInstance

def digitVal (c : UInt8) : Nat :=
  if c ≤ 57 then c.toNat - 48 else if c ≤ 70 then c.toNat - 55 else c.toNat - 87

/-- value of a string of hex-digit pairs -/
def decodeHex : Bytes → Bytes
  | a :: b :: t => UInt8.ofNat (digitVal a * 16 + digitVal b) :: decodeHex t
  | _ => []

def NonZero (bs : Bytes) : Prop := ∃ b ∈ bs, b ≠ 0

/-- **The W3C level-1 `traceparent` grammar** for a (trimmed) header `t` denoting ids `tid`, `sid` and flags `fl`:
    `version "-" trace-id "-" parent-id "-" trace-flags`, 2/32/16/2 hex digits of either case, version ≠ `ff`,
    nothing after the flags for version `00`, for higher versions optionally `"-"` and anything; ids non-zero. -/
def WellFormed (t tid sid : Bytes) (fl : UInt8) : Prop :=
  ∃ ver tidh sidh flh rest,
    t = ver ++ 45 :: (tidh ++ 45 :: (sidh ++ 45 :: (flh ++ rest))) ∧
    ver.length = 2 ∧ tidh.length = 32 ∧ sidh.length = 16 ∧ flh.length = 2 ∧
    (∀ c ∈ ver, IsHexChar c) ∧ (∀ c ∈ tidh, IsHexChar c) ∧ (∀ c ∈ sidh, IsHexChar c) ∧ (∀ c ∈ flh, IsHexChar c) ∧
    decodeHex ver ≠ [255] ∧
    (rest = [] ∨ (decodeHex ver ≠ [0] ∧ ∃ r, rest = 45 :: r)) ∧
    decodeHex tidh = tid ∧ decodeHex sidh = sid ∧ decodeHex flh = [fl] ∧
    NonZero tid ∧ NonZero sid

/-- `ToLowerBase16` of one byte: high nibble, low nibble — lower-case digits whenever the table's sixteen entries are -/
theorem hexOfByte_lower (tab : List UInt8) (h : ∀ n, n < 16 → nibble tab n = lowerDigit n) (b : UInt8) :
    hexOfByte tab b = [lowerDigit (b.toNat / 16), lowerDigit (b.toNat % 16)] := by
  have hb := b.toNat_lt
  have h1 : (b.toNat >>> 4) &&& 0xF = b.toNat / 16 := by
    rw [Nat.shiftRight_eq_div_pow]
    exact (Nat.and_two_pow_sub_one_eq_mod _ 4).trans (Nat.mod_eq_of_lt (by omega))
  have h2 : b.toNat &&& 0xF = b.toNat % 16 := Nat.and_two_pow_sub_one_eq_mod _ 4
  rw [hexOfByte, h1, h2, h _ (by omega), h _ (by omega)]

theorem traceId_table_lower : ∀ b : UInt8, hexOfByte Gen.traceIdHex b = [lowerDigit (b.toNat / 16), lowerDigit (b.toNat % 16)] :=
  hexOfByte_lower _ (by decide)
theorem spanId_table_lower : ∀ b : UInt8, hexOfByte Gen.spanIdHex b = [lowerDigit (b.toNat / 16), lowerDigit (b.toNat % 16)] :=
  hexOfByte_lower _ (by decide)
/-- `TraceFlags::ToLowerBase16` writes lower-case digits (D04: the as-is table was upper-case) -/
theorem traceFlags_table_lower : ∀ b : UInt8, hexOfByte Gen.traceFlagsHex b = [lowerDigit (b.toNat / 16), lowerDigit (b.toNat % 16)] :=
  hexOfByte_lower _ (by decide)

/-- the generated `kHexDigits` is the table of digit values, 255 (= -1) for every other byte.
    Comparing the two tables is linear; asking `hexToInt c` for each `c` walks the list 256 times. -/
theorem gen_kHexDigits : Gen.kHexDigits =
    (List.range 256).map fun n => if IsHexChar (UInt8.ofNat n) then UInt8.ofNat (digitVal (UInt8.ofNat n)) else 255 := by
  decide +kernel

theorem hexToInt_spec (c : UInt8) : hexToInt c = if IsHexChar c then UInt8.ofNat (digitVal c) else 255 := by
  rw [hexToInt, gen_kHexDigits, List.getD_eq_getElem?_getD, List.getElem?_map, List.getElem?_range c.toNat_lt]
  simp

theorem digitVal_lt16 {c : UInt8} (h : IsHexChar c) : digitVal c < 16 := by
  simp only [IsHexChar, digitVal, UInt8.le_iff_toNat_le, UInt8.reduceToNat] at h ⊢
  split
  · omega
  · split <;> omega

theorem hexToInt_of_hex {c : UInt8} (h : IsHexChar c) : hexToInt c = UInt8.ofNat (digitVal c) := by
  rw [hexToInt_spec, if_pos h]

theorem isHexDigit_iff : ∀ c : UInt8, isHexDigit c = true ↔ IsHexChar c := by
  intro c
  rw [isHexDigit, hexToInt_spec, bne_iff_ne]
  by_cases h : IsHexChar c
  · have := digitVal_lt16 h
    simp only [h, if_true, iff_true, ne_eq, ← UInt8.toNat_inj, UInt8.toNat_ofNat', UInt8.reduceToNat]
    omega
  · simp [h]

theorem hexToInt_eq_digitVal : ∀ c : UInt8, IsHexChar c → (hexToInt c).toNat = digitVal c := by
  intro c h
  rw [hexToInt_of_hex h, UInt8.toNat_ofNat']
  exact Nat.mod_eq_of_lt (Nat.lt_trans (digitVal_lt16 h) (by decide))

theorem lowerDigit_facts : ∀ n, n < 16 → IsHexChar (lowerDigit n) ∧ digitVal (lowerDigit n) = n := by decide

theorem hexChar_not_space : ∀ c : UInt8, IsHexChar c → isSpace c = false := by
  intro c h
  simp only [IsHexChar, isSpace, UInt8.le_iff_toNat_le, UInt8.reduceToNat, Bool.or_eq_false_iff, Bool.and_eq_false_iff,
    beq_eq_false_iff_ne, decide_eq_false_iff_not, ne_eq, ← UInt8.toNat_inj] at h ⊢
  omega

theorem shl_or : ∀ x, x < 16 → ∀ y, y < 16 → (UInt8.ofNat x <<< 4) ||| UInt8.ofNat y = UInt8.ofNat (x * 16 + y) := by
  decide +kernel

theorem hexOfBytes_lower (tab : List UInt8)
    (h : ∀ b : UInt8, hexOfByte tab b = [lowerDigit (b.toNat / 16), lowerDigit (b.toNat % 16)]) (bs : Bytes) :
    hexOfBytes tab bs = lowerHex bs := by
  rw [hexOfBytes, lowerHex, funext h]

theorem traceIdToHex_eq (id : Bytes) : traceIdToHex id = lowerHex id := hexOfBytes_lower _ traceId_table_lower id
theorem spanIdToHex_eq (id : Bytes) : spanIdToHex id = lowerHex id := hexOfBytes_lower _ spanId_table_lower id
theorem flagsToHex_eq (f : UInt8) : flagsToHex f = lowerHex [f] := by
  simp [flagsToHex, lowerHex, traceFlags_table_lower]

theorem lowerHex_cons (b : UInt8) (t : Bytes) :
    lowerHex (b :: t) = lowerDigit (b.toNat / 16) :: lowerDigit (b.toNat % 16) :: lowerHex t := by
  simp [lowerHex, List.flatMap_cons]

theorem lowerHex_length (bs : Bytes) : (lowerHex bs).length = 2 * bs.length := by
  induction bs with
  | nil => rfl
  | cons b t ih => rw [lowerHex_cons]; simp [ih]; omega

theorem lowerHex_hex (bs : Bytes) : ∀ c ∈ lowerHex bs, IsHexChar c := by
  induction bs with
  | nil => intro c h; simp [lowerHex] at h
  | cons b t ih =>
    intro c h
    have hb := b.toNat_lt
    rw [lowerHex_cons, List.mem_cons, List.mem_cons] at h
    rcases h with rfl | rfl | h
    · exact (lowerDigit_facts _ (by omega)).1
    · exact (lowerDigit_facts _ (by omega)).1
    · exact ih c h

theorem decodeHex_lowerHex (bs : Bytes) : decodeHex (lowerHex bs) = bs := by
  induction bs with
  | nil => rfl
  | cons b t ih =>
    have hb := b.toNat_lt
    rw [lowerHex_cons, decodeHex, ih, (lowerDigit_facts _ (by omega)).2, (lowerDigit_facts _ (by omega)).2,
      Nat.div_add_mod', UInt8.ofNat_toNat]

theorem decodeHex_length : ∀ s : Bytes, (decodeHex s).length = s.length / 2
  | [] => rfl
  | [_] => by simp [decodeHex]
  | a :: b :: t => by simp [decodeHex, decodeHex_length t]; omega

theorem hexPairs_eq_decode : ∀ s : Bytes, (∀ c ∈ s, IsHexChar c) → hexPairs s = decodeHex s
  | [], _ => rfl
  | [_], _ => rfl
  | a :: b :: t, h => by
    have ha := h a (by simp)
    have hb := h b (by simp)
    rw [hexPairs, decodeHex, hexPairs_eq_decode t (fun c hc => h c (by simp [hc])), hexToInt_of_hex ha, hexToInt_of_hex hb,
      shl_or _ (digitVal_lt16 ha) _ (digitVal_lt16 hb)]

theorem isValidHex_iff (s : Bytes) : isValidHex s = true ↔ ∀ c ∈ s, IsHexChar c := by
  simp only [isValidHex, List.all_eq_true, isHexDigit_iff]

/-- `HexToBinary` on hex digits that fit: the value (an odd string has an implicit leading `0`), right-aligned in the
    `n`-byte buffer behind zeroes -/
theorem hexToBinary_of_hex (s : Bytes) (n : Nat) (hl : s.length ≤ 2 * n) (h : ∀ c ∈ s, IsHexChar c) :
    hexToBinary s n = (true, List.replicate (n - (s.length + 1) / 2) 0 ++
      if s.length % 2 = 1 then decodeHex (48 :: s) else decodeHex s) := by
  unfold hexToBinary
  rw [if_neg (by omega)]
  by_cases ho : s.length % 2 = 1
  · rw [if_pos ho, if_pos ho]
    match s, h with
    | c :: t, h =>
      have hc : hexToInt c = UInt8.ofNat (digitVal 48 * 16 + digitVal c) := by
        rw [hexToInt_of_hex (h c (by simp)), show digitVal 48 = 0 by decide, Nat.zero_mul, Nat.zero_add]
      simp only [decodeHex, hexPairs_eq_decode t (fun x hx => h x (by simp [hx])), hc]
  · rw [if_neg ho, if_neg ho, hexPairs_eq_decode s h]

theorem hexToBinary_long (s : Bytes) (n : Nat) (hl : s.length > 2 * n) : hexToBinary s n = (false, List.replicate n 0) := by
  unfold hexToBinary
  rw [if_pos hl]

theorem hexToBinary_exact (s : Bytes) (n : Nat) (hl : s.length = 2 * n) (h : ∀ c ∈ s, IsHexChar c) :
    hexToBinary s n = (true, decodeHex s) := by
  rw [hexToBinary_of_hex s n (by omega) h, if_neg (by omega), show n - (s.length + 1) / 2 = 0 by omega]
  rfl

theorem hexToBinary_lowerHex (bs : Bytes) : hexToBinary (lowerHex bs) bs.length = (true, bs) := by
  rw [hexToBinary_exact _ _ (lowerHex_length bs) (lowerHex_hex bs), decodeHex_lowerHex]

theorem not_mem_of_hex {c : UInt8} (hc : ¬ IsHexChar c) (s : Bytes) (h : ∀ x ∈ s, IsHexChar x) : c ∉ s :=
  fun hm => hc (h c hm)

theorem not_dash_of_hex (s : Bytes) (h : ∀ c ∈ s, IsHexChar c) : (45 : UInt8) ∉ s :=
  not_mem_of_hex (by decide) s h

theorem allZero_false_iff (bs : Bytes) : allZero bs = false ↔ NonZero bs := by
  simp [allZero, NonZero]

theorem gen_sizes : Gen.kVersionSize = 2 ∧ Gen.kTraceIdSize = 32 ∧ Gen.kSpanIdSize = 16 ∧ Gen.kTraceFlagsSize = 2 ∧
    Gen.kTraceParentSize = 55 ∧ Gen.kInvalidVersion = 255 ∧ Gen.kDefaultAssumedVersion = 0 := by decide

/-- the length test of `ExtractImpl` on a header of `55 + n` bytes: only version `00` insists that nothing follows the flags -/
theorem length_test_iff (v : UInt8) (n : Nat) :
    (if v.toNat > 0 then decide (55 + n < 55) else decide (55 + n ≠ 55)) = false ↔ (n = 0 ∨ v.toNat > 0) := by
  split <;> simp [*]

theorem decode2 (s : Bytes) (h : s.length = 2) : ∃ x, decodeHex s = [x] := by
  match s, h with
  | [a, b], _ => exact ⟨_, rfl⟩

theorem extract_of_wellformed (t ts tid sid : Bytes) (fl : UInt8) (h : WellFormed t tid sid fl) :
    extractFromHeaders t ts = some { traceId := tid, spanId := sid, flags := fl, remote := true,
                                     traceState := TraceState.fromHeader ts } := by
  obtain ⟨ver, tidh, sidh, flh, rest, ht, lv, lt, ls, lf, hv, htd, hsd, hfd, hff, hrest, etid, esid, efl, nzt, nzs⟩ := h
  have dv := not_dash_of_hex _ hv
  have dt := not_dash_of_hex _ htd
  have ds := not_dash_of_hex _ hsd
  have df := not_dash_of_hex _ hfd
  have hsplit : splitString 45 4 t = [ver, tidh, sidh, flh] := by
    refine splitString4_iff.2 ⟨dv, dt, ds, df, ?_⟩
    rcases hrest with rfl | ⟨_, r, rfl⟩
    · exact Or.inl (by rw [ht, List.append_nil])
    · exact Or.inr ⟨r, ht⟩
  obtain ⟨g1, g2, g3, g4, g5, g6, g7⟩ := gen_sizes
  obtain ⟨v, hvx⟩ := decode2 ver lv
  have htl : t.length = 55 + rest.length := by rw [ht]; simp; omega
  have hv255 : ¬ v.toNat = 255 := fun e => hff (by rw [hvx, show v = 255 from UInt8.toNat_inj.1 e])
  have hlen : (if v.toNat > 0 then decide (t.length < 55) else decide (t.length ≠ 55)) = false := by
    rw [htl, length_test_iff]
    exact hrest.imp (congrArg List.length) fun hne =>
      Nat.pos_of_ne_zero fun e => hne.1 (by rw [hvx, show v = 0 from UInt8.toNat_inj.1 e])
  simp only [extractFromHeaders, hsplit, g1, g2, g3, g4, g5, g6, g7, lv, lt, ls, lf, (isValidHex_iff _).2 hv,
    (isValidHex_iff _).2 htd, (isValidHex_iff _).2 hsd, (isValidHex_iff _).2 hfd, hexToBinary_exact ver 1 lv hv,
    hexToBinary_exact tidh 16 lt htd, hexToBinary_exact sidh 8 ls hsd, hexToBinary_exact flh 1 lf hfd, hvx, etid, esid, efl,
    List.headD_cons, hv255, hlen, (allZero_false_iff tid).2 nzt, (allZero_false_iff sid).2 nzs]
  -- every test has been rewritten to its outcome; what is left are `if`s on `true` / `false`
  simp

theorem wellformed_of_extract (t ts : Bytes) (sc : SpanCtx) (h : extractFromHeaders t ts = some sc) :
    WellFormed t sc.traceId sc.spanId sc.flags ∧ sc.remote = true ∧ sc.traceState = TraceState.fromHeader ts := by
  obtain ⟨g1, g2, g3, g4, g5, g6, g7⟩ := gen_sizes
  unfold extractFromHeaders at h
  split at h
  · rename_i ver tidh sidh flh hsplit
    -- the chain of `if … then none` as one conjunction
    simp only [g1, g2, g3, g4, g5, g6, g7, Option.ite_none_left_eq_some, Bool.or_eq_true, bne_iff_ne, ne_eq, not_or,
      Decidable.not_not, Bool.not_eq_true', Bool.not_eq_false, Bool.not_eq_true, Option.some.injEq, isValidHex_iff] at h
    -- in the order of the tests: the four lengths, the four hex tests, version ≠ ff, the length test, non-zero ids, the result
    obtain ⟨⟨⟨⟨lv, lt⟩, ls⟩, lf⟩, ⟨⟨⟨hv, htd⟩, hsd⟩, hfd⟩, hv255, hlenc, ⟨zt, zs⟩, rfl⟩ := h
    obtain ⟨v, hvx⟩ := decode2 ver lv
    obtain ⟨f, hfx⟩ := decode2 flh lf
    refine ⟨?_, rfl, rfl⟩
    simp only [hexToBinary_exact ver 1 lv hv, hexToBinary_exact tidh 16 lt htd, hexToBinary_exact sidh 8 ls hsd,
      hexToBinary_exact flh 1 lf hfd, hvx, hfx, List.headD_cons, Nat.reduceDiv] at hv255 hlenc zt zs ⊢
    obtain ⟨_, _, _, _, hshape⟩ := splitString4_iff.1 hsplit
    -- the grammar's `rest` is what follows the flags: nothing, or `-` and anything (then the version is not `00`)
    have build : ∀ rest, t = ver ++ 45 :: (tidh ++ 45 :: (sidh ++ 45 :: (flh ++ rest))) →
        (rest = [] ∨ (decodeHex ver ≠ [0] ∧ ∃ r, rest = 45 :: r)) → WellFormed t (decodeHex tidh) (decodeHex sidh) f :=
      fun rest e hrest => ⟨ver, tidh, sidh, flh, rest, e, lv, lt, ls, lf, hv, htd, hsd, hfd,
        by rw [hvx]; intro e; apply hv255; cases e; rfl, hrest, rfl, rfl, hfx,
        (allZero_false_iff _).1 zt, (allZero_false_iff _).1 zs⟩
    rcases hshape with e | ⟨r, e⟩
    · exact build [] (by simpa using e) (Or.inl rfl)
    · refine build (45 :: r) e (Or.inr ⟨?_, r, rfl⟩)
      -- version `00` requires exactly 55 bytes, and here there are at least 56
      intro e0
      have htl : t.length = 55 + (r.length + 1) := by rw [e]; simp; omega
      rw [htl, length_test_iff] at hlenc
      exact hlenc.elim nofun fun hv0 => absurd hv0 (by rw [hvx] at e0; cases e0; decide)
  · cases h

/-- the test for an empty header is a shortcut only: an empty header has one field, which `extractFromHeaders` refuses as well -/
theorem extract_eq (tp ts : Bytes) : extract tp ts = extractFromHeaders (trim tp) ts := by
  rw [extract]
  cases trim tp <;> rfl

/-- *Extraction accepts exactly the well-formed headers* (up to hex-digit case, and surrounding white space removed
    by `trim`): for **every** byte string `tp` in `traceparent` and `ts` in `tracestate`, a span context is installed
    iff the trimmed header matches the W3C grammar (which makes it non-empty), and then it is the remote context with exactly
    the encoded ids and flags.  `extract = none` is "the caller's context is returned unchanged". -/
theorem extract_iff_wellformed (tp ts : Bytes) (sc : SpanCtx) :
    extract tp ts = some sc ↔
      (WellFormed (trim tp) sc.traceId sc.spanId sc.flags ∧ sc.remote = true ∧ sc.traceState = TraceState.fromHeader ts) := by
  rw [extract_eq]
  refine ⟨wellformed_of_extract _ _ _, fun ⟨hw, hr, hts⟩ => ?_⟩
  rw [extract_of_wellformed _ ts _ _ _ hw]
  -- the remaining two fields of `sc` are `hr`, `hts`
  cases sc
  simp only at hr hts
  rw [hr, hts]

/-- what is installed is always a valid context: non-zero ids (an invalid span context is never installed) -/
theorem extract_some_valid (tp ts : Bytes) (sc : SpanCtx) (h : extract tp ts = some sc) :
    sc.isValid = true ∧ sc.traceId.length = 16 ∧ sc.spanId.length = 8 ∧ sc.remote = true := by
  -- of the grammar only the lengths of the two id fields, what they decode to and that the ids are non-zero are needed
  obtain ⟨⟨ver, tidh, sidh, flh, rest, _, _, lt, ls, _, _, _, _, _, _, _, etid, esid, _, nzt, nzs⟩, hr, _⟩ :=
    (extract_iff_wellformed tp ts sc).1 h
  refine ⟨?_, ?_, ?_, hr⟩
  · simp [SpanCtx.isValid, (allZero_false_iff _).2 nzt, (allZero_false_iff _).2 nzs]
  · rw [← etid, decodeHex_length, lt]
  · rw [← esid, decodeHex_length, ls]

theorem inject_invalid_none (sc : SpanCtx) (h : sc.isValid = false) : inject sc = none := by
  simp [inject, h]

/-- **Shape of the injected header**: for every valid span context the `traceparent` is exactly
    `00-<32 lower-case hex>-<16 lower-case hex>-<2 lower-case hex>`, 55 bytes; the `tracestate` is written iff
    the state's header is non-empty. -/
theorem inject_shape (sc : SpanCtx) (hv : sc.isValid = true) (ht : sc.traceId.length = 16) (hs : sc.spanId.length = 8) :
    ∃ tp tso, inject sc = some (tp, tso) ∧
      tp = [48, 48, 45] ++ lowerHex sc.traceId ++ [45] ++ lowerHex sc.spanId ++ [45] ++ lowerHex [sc.flags] ∧
      tp.length = 55 ∧
      (tso = none ↔ TraceState.toHeader sc.traceState = []) ∧
      (∀ h, tso = some h → h = TraceState.toHeader sc.traceState) := by
  refine ⟨_, if (TraceState.toHeader sc.traceState).isEmpty then none else some (TraceState.toHeader sc.traceState),
    ?_, rfl, ?_, ?_, ?_⟩
  · simp only [inject, hv, Bool.not_true, Bool.false_eq_true, if_false, traceIdToHex_eq, spanIdToHex_eq, flagsToHex_eq]
  · simp [lowerHex_length, ht, hs]
  · cases TraceState.toHeader sc.traceState <;> simp
  · cases TraceState.toHeader sc.traceState <;> simp [eq_comm]

/-- **Round trip**: extracting what was injected for a valid span context yields the remote context with the same
    trace id, span id and flags byte (all 256), and the trace state parsed back from the written header
    (equal to the original by C14's `fromHeader_toHeader`). -/
theorem extract_inject (sc : SpanCtx) (hv : sc.isValid = true) (ht : sc.traceId.length = 16) (hs : sc.spanId.length = 8) :
    ∃ tp tso, inject sc = some (tp, tso) ∧
      extract tp (tso.getD []) =
        some { sc with remote := true, traceState := TraceState.fromHeader (TraceState.toHeader sc.traceState) } := by
  obtain ⟨tp, tso, hi, htp, _, hnone, hsome⟩ := inject_shape sc hv ht hs
  refine ⟨tp, tso, hi, ?_⟩
  have hts : tso.getD [] = TraceState.toHeader sc.traceState := by
    cases tso with
    | none => simp [hnone.1 rfl]
    | some h => simp [hsome h rfl]
  simp only [SpanCtx.isValid, Bool.and_eq_true, Bool.not_eq_true'] at hv
  have hw : WellFormed tp sc.traceId sc.spanId sc.flags :=
    ⟨[48, 48], lowerHex sc.traceId, lowerHex sc.spanId, lowerHex [sc.flags], [], by rw [htp]; simp, rfl,
      by rw [lowerHex_length, ht], by rw [lowerHex_length, hs], rfl, by decide,
      lowerHex_hex _, lowerHex_hex _, lowerHex_hex _, by decide, Or.inl rfl, decodeHex_lowerHex _, decodeHex_lowerHex _,
      decodeHex_lowerHex _, (allZero_false_iff _).1 hv.1, (allZero_false_iff _).1 hv.2⟩
  -- the injected header starts with '0' and ends with a hex digit: `Trim` leaves it alone
  have htrim : trim tp = tp := by
    have hf := sc.flags.toNat_lt
    apply trim_id_of_ends tp 48 (lowerDigit (sc.flags.toNat % 16))
      ([48, 45] ++ lowerHex sc.traceId ++ [45] ++ lowerHex sc.spanId ++ [45, lowerDigit (sc.flags.toNat / 16)])
    · rw [htp]; simp [lowerHex]
    · decide
    · exact hexChar_not_space _ (lowerDigit_facts _ (by omega)).1
  rw [hts, (extract_iff_wellformed tp _ _).2]
  rw [htrim]
  exact ⟨hw, rfl, rfl⟩

/-- `Fields()` names exactly `traceparent` and `tracestate` (the two headers of the statement), in that order, and
    returns true when the callback never declines -/
theorem fields_names :
    fields 0 = ([[116, 114, 97, 99, 101, 112, 97, 114, 101, 110, 116], [116, 114, 97, 99, 101, 115, 116, 97, 116, 101]], true) := by
  decide

/-- a declining callback sees a prefix of those names and `Fields()` answers false -/
theorem fields_stop (n : Nat) (h0 : 0 < n) (h2 : n ≤ 2) : fields n = ((fields 0).1.take n, false) := by
  have : n = 1 ∨ n = 2 := by omega
  rcases this with rfl | rfl <;> decide

/-- `TraceIdFromHex` inverts `TraceId::ToLowerBase16` -/
theorem idFromHex_traceIdToHex (id : Bytes) (h : id.length = 16) : idFromHex 16 (traceIdToHex id) = id := by
  rw [idFromHex, traceIdToHex_eq, ← h, hexToBinary_lowerHex]

/-- `SpanIdFromHex` inverts `SpanId::ToLowerBase16` -/
theorem idFromHex_spanIdToHex (id : Bytes) (h : id.length = 8) : idFromHex 8 (spanIdToHex id) = id := by
  rw [idFromHex, spanIdToHex_eq, ← h, hexToBinary_lowerHex]

/-- `TraceFlagsFromHex` inverts `TraceFlags::ToLowerBase16`, for all 256 flag bytes -/
theorem idFromHex_flagsToHex (f : UInt8) : idFromHex 1 (flagsToHex f) = [f] := by
  rw [idFromHex, flagsToHex_eq]
  exact congrArg Prod.snd (hexToBinary_lowerHex [f])

/-- an input that does not fit yields the all-zero (invalid) id, never a partial one -/
theorem idFromHex_overlong (n : Nat) (hex : Bytes) (h : hex.length > 2 * n) : idFromHex n hex = List.replicate n 0 :=
  congrArg Prod.snd (hexToBinary_long hex n h)

/-! The hypotheses are met by concrete contexts / headers. -/

def exampleCtx : SpanCtx :=
  { traceId := [1,2,3,4,5,6,7,8,9,10,11,12,13,14,15,16], spanId := [1,2,3,4,5,6,7,8], flags := 0xAB, remote := false, traceState := [] }

example : exampleCtx.isValid = true ∧ exampleCtx.traceId.length = 16 ∧ exampleCtx.spanId.length = 8 := by decide
example : (inject exampleCtx).map (·.1.length) = some 55 := by decide
example : (extract ((inject exampleCtx).get!.1) []).map (·.flags) = some 0xAB := by decide +kernel

end Otel.C09
