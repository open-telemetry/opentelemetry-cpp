import OtelVerif.Props.C17
/-! # C17 at the meter: `Meter::Collect` feeds every instrument's storage exactly what belongs to it

This lifts the per-storage theorems of `Props/C17.lean` to histories of the meter model (`AMeter`, `amstep`).  For each
kind of instrument a meter history is projected on what the storage of instrument `i` sees: `cyclesOf` (observable
counters and up-down counters: the measurement maps of the callbacks registered on `i`, once each per collection),
`lopsOf` (synchronous gauges: its `Record` calls and the collections), `gcyclesOf` (observable gauges: the observations
of its callbacks stamped with the meter's sample clock).  An invariant per kind (`AMInv`, `SGInv`, `GGInv`) says the
storage is in the state the projected history leads to; the meter-level theorems are then the storage-level ones. -/
namespace Otel.C17
open Otel.Temporal Otel.C06

/-- the kinds of the instruments created in a history (most recent operation first), in creation order -/
def kindsOf : List AOp → List OKind
  | [] => []
  | .create k :: o => kindsOf o ++ [k]
  | .addcb _ _ :: o => kindsOf o
  | .rmcb _ _ :: o => kindsOf o
  | .destroy _ :: o => kindsOf o
  | .grec _ _ _ :: o => kindsOf o
  | .collect _ _ :: o => kindsOf o

def collectsInA : List AOp → Nat
  | [] => 0
  | .collect _ _ :: o => collectsInA o + 1
  | .create _ :: o => collectsInA o
  | .addcb _ _ :: o => collectsInA o
  | .rmcb _ _ :: o => collectsInA o
  | .destroy _ :: o => collectsInA o
  | .grec _ _ _ :: o => collectsInA o

/-- a gauge `Record` reaches a storage only when the instrument is a synchronous gauge -/
theorem amstep_grec (c : Cfg) (m : AMeter) (j a : Nat) (v : Int) :
    amstep c m (.grec j a v) =
      if m.kinds[j]? = some .syncGauge then
        { m with sgauges := setAt m.sgauges j (sgrecord (m.sgauges j) a ⟨v, m.clock + 1⟩), clock := m.clock + 1 }
      else m := by
  simp only [amstep]
  split
  · next hk => rw [if_pos hk]
  · next hk => rw [if_neg (fun e => hk e)]

theorem amrunRev_kinds (c : Cfg) : ∀ h : List AOp, (amrunRev c h).kinds = kindsOf h := by
  intro h
  induction h with
  | nil => rfl
  | cons op o ih =>
    cases op with
    | create k => simp only [amrunRev, amstep, kindsOf, ih]
    | grec j a v => rw [amrunRev, amstep_grec]; split <;> exact ih
    | collect r script => exact (observe_frame _ script).kinds.trans ih
    | _ => exact ih

theorem amrunRev_collects (c : Cfg) : ∀ h : List AOp, (amrunRev c h).collects = collectsInA h := by
  intro h
  induction h with
  | nil => rfl
  | cons op o ih =>
    cases op with
    | grec j a v => rw [amrunRev, amstep_grec]; split <;> exact ih
    | collect r script => exact congrArg (· + 1) ih
    | _ => exact ih

/-- `Meter::Collect`: each storage is collected in the state `Observe` leaves it in -/
theorem amcollect_sums (c : Cfg) (m : AMeter) (r : Nat) (script : Script) (i : Nat) :
    (amcollect c m r script).1.sums i = (acollect c ((observe m script).sums i) r (m.collects + 1)).1 := rfl
theorem amcollect_gauges (c : Cfg) (m : AMeter) (r : Nat) (script : Script) (i : Nat) :
    (amcollect c m r script).1.gauges i = (gcollect c ((observe m script).gauges i) r (m.collects + 1)).1 := rfl
theorem amcollect_sgauges (c : Cfg) (m : AMeter) (r : Nat) (script : Script) (i : Nat) :
    (amcollect c m r script).1.sgauges i = (sgcollect c ((observe m script).sgauges i) r (m.collects + 1)).1 := rfl

/-- what a collection after history `h` hands the reader for instrument `i`, by the kind of `i` -/
theorem amcollect_out (c : Cfg) (h : List AOp) (r : Nat) (script : Script) (i : Nat) :
    (amcollect c (amrunRev c h) r script).2.2 i =
      match (kindsOf h)[i]? with
      | some .gauge => (gcollect c ((observe (amrunRev c h) script).gauges i) r (collectsInA h + 1)).2.map Out.lv
      | some .syncGauge => (sgcollect c ((amrunRev c h).sgauges i) r (collectsInA h + 1)).2.map Out.lv
      | some _ => (acollect c ((observe (amrunRev c h) script).sums i) r (collectsInA h + 1)).2.map Out.sum
      | none => none := by
  have hf := observe_frame (amrunRev c h) script
  simp only [amcollect, hf.kinds, hf.sgauges, amrunRev_kinds, amrunRev_collects]
  cases (kindsOf h)[i]? with
  | none => rfl
  | some k => cases k <;> rfl

/-! ## Observable counters and up-down counters -/

/-- what one invocation records into the sum storage of an instrument of kind `k` (nothing for a gauge) -/
def recOf (k : Option OKind) (script : Script) (inv : Reg) : Option DMap :=
  match k with
  | some .counter => some (ignoreNegative (measurements (script inv.cb)))
  | some .updown => some (measurements (script inv.cb))
  | _ => none

/-- **Specification**: the measurement maps recorded into instrument `i`'s storage by one `Observe`: one per record
    registered on `i`, in registration order -/
def recsFor (k : Option OKind) (i : Nat) (g : Registry) (script : Script) : List DMap :=
  (g.filter fun inv => inv.instr == i).filterMap (recOf k script)

/-- **the cycles instrument `i`'s sum storage sees** in a meter history -/
def cyclesOf (i : Nat) : List AOp → List Cycle
  | [] => []
  | .collect r script :: o =>
    ⟨recsFor ((kindsOf o)[i]?) i (rrunRev (regOps o)) script, r, collectsInA o + 1⟩ :: cyclesOf i o
  | .create _ :: o => cyclesOf i o
  | .addcb _ _ :: o => cyclesOf i o
  | .rmcb _ _ :: o => cyclesOf i o
  | .destroy _ :: o => cyclesOf i o
  | .grec _ _ _ :: o => cyclesOf i o

theorem recsFor_cons (k : Option OKind) (i : Nat) (inv : Reg) (t : Registry) (script : Script) :
    recsFor k i (inv :: t) script = recsFor k i [inv] script ++ recsFor k i t script := by
  simp only [recsFor, ← List.filterMap_append, ← List.filter_append, List.singleton_append]

/-- one invocation, seen from instrument `i`'s sum storage -/
theorem observeOne_sums (script : Script) (m : AMeter) (inv : Reg) (i : Nat) :
    (observeOne script m inv).sums i = (recsFor (m.kinds[i]?) i [inv] script).foldl recordAll (m.sums i) := by
  unfold observeOne recsFor
  by_cases hi : inv.instr = i
  · subst hi
    have hb : (inv.instr == inv.instr) = true := beq_self_eq_true _
    simp only [List.filter_cons, hb, if_true, List.filter_nil, List.filterMap_cons, List.filterMap_nil]
    cases m.kinds[inv.instr]? with
    | none => rfl
    | some k => cases k <;> simp only [recOf, List.foldl_cons, List.foldl_nil, setAt_same]
  · have hb : (inv.instr == i) = false := beq_false_of_ne hi
    simp only [List.filter_cons, hb, Bool.false_eq_true, if_false, List.filter_nil, List.filterMap_nil, List.foldl_nil]
    cases m.kinds[inv.instr]? with
    | none => rfl
    | some k =>
      cases k with
      | counter | updown => exact setAt_other _ _ (Ne.symm hi)  -- writes the sum storage of `inv.instr ≠ i`
      | gauge | syncGauge => rfl                                 -- writes no sum storage

/-- the loop of `observe`, seen from instrument `i`'s sum storage -/
theorem foldl_observe_sums (script : Script) (i : Nat) : ∀ (l : Registry) (m : AMeter),
    (l.foldl (observeOne script) m).kinds = m.kinds ∧ (l.foldl (observeOne script) m).collects = m.collects ∧
    (l.foldl (observeOne script) m).sums i = (recsFor (m.kinds[i]?) i l script).foldl recordAll (m.sums i) := by
  intro l m
  refine ⟨(foldl_observeOne_frame script l m).kinds, (foldl_observeOne_frame script l m).collects, ?_⟩
  induction l generalizing m with
  | nil => rfl
  | cons inv t ih =>
    rw [recsFor_cons, List.foldl_append, ← observeOne_sums, List.foldl_cons, ih, (observeOne_frame script m inv).kinds]

/-- the meter state is consistent with history `h`, from the point of view of instrument `i`'s sum storage -/
structure AMInv (c : Cfg) (i : Nat) (h : List AOp) (m : AMeter) : Prop where
  kinds : m.kinds = kindsOf h
  collects : m.collects = collectsInA h
  sums : m.sums i = (arunRev c (cyclesOf i h)).1

/-- `Observe` after history `h` runs the record loop of instrument `i`'s next cycle -/
theorem observe_sums (c : Cfg) (i : Nat) (h : List AOp) (script : Script)
    (hs : (amrunRev c h).sums i = (arunRev c (cyclesOf i h)).1) :
    (observe (amrunRev c h) script).sums i =
      (recsFor ((kindsOf h)[i]?) i (rrunRev (regOps h)) script).foldl recordAll (arunRev c (cyclesOf i h)).1 := by
  rw [observe_eq_foldl, (foldl_observe_sums script i _ _).2.2, hs, amrunRev_kinds, invocations, meter_registry]

/-- after every meter history, the storage of observable instrument `i` is in the state its
    own cycles lead to -/
theorem meter_sum_storage (c : Cfg) (i : Nat) : ∀ h : List AOp, AMInv c i h (amrunRev c h) := by
  intro h
  induction h with
  | nil => exact ⟨rfl, rfl, rfl⟩
  | cons op h ih =>
    refine ⟨amrunRev_kinds c _, amrunRev_collects c _, ?_⟩
    have hs := ih.sums
    cases op with
    | grec j a v => rw [amrunRev, amstep_grec]; split <;> exact hs
    | collect r script =>
      rw [amrunRev, amstep, amcollect_sums, observe_sums c i h script hs, amrunRev_collects]; rfl
    | _ => exact hs

/-- what a reader receives for observable counter / up-down counter `i` from a collection after
    meter history `h` is the output of that storage's next cycle -/
theorem meter_sum_output (c : Cfg) (i : Nat) (h : List AOp) (r : Nat) (script : Script) (k : OKind)
    (hk : (kindsOf h)[i]? = some k) (hsum : k = .counter ∨ k = .updown) :
    (amcollect c (amrunRev c h) r script).2.2 i =
      (cycleOut c (cyclesOf i h) ⟨recsFor (some k) i (rrunRev (regOps h)) script, r, collectsInA h + 1⟩).map Out.sum := by
  rw [amcollect_out, observe_sums c i h script (meter_sum_storage c i h).sums, hk]
  rcases hsum with rfl | rfl <;> rfl

/-- **each callback's measurements reach its instrument once per collection**: a callback registered once on
    instrument `i` contributes exactly one measurement map to `i`'s cycle -/
theorem recsFor_length (k : OKind) (hsum : k = .counter ∨ k = .updown) (i : Nat) (g : Registry) (script : Script) :
    (recsFor (some k) i g script).length = (g.filter fun inv => inv.instr == i).length := by
  unfold recsFor
  generalize (g.filter fun inv => inv.instr == i) = l
  induction l with
  | nil => rfl
  | cons inv t ih => rcases hsum with rfl | rfl <;> simp [recOf, ih]

/-- the points of what a reader received for a sum instrument -/
def sumPoints : Option Out → DMap
  | some (.sum md) => md.points
  | _ => []

theorem sumPoints_map (o : Option MetricData) : sumPoints (o.map Out.sum) = pointsOf o := by
  cases o <;> rfl

/-- For every meter history (create / AddCallback /
    RemoveCallback / destroy / Collect by any readers with any scripts), under the D21 hypothesis for the cycles of
    instrument `i`, a cumulative reader's point for `a` is the total most recently reported for `a` by the callbacks
    registered on `i`. -/
theorem meter_observable_cumulative (c : Cfg) (i : Nat) (h : List AOp) (r : Nat) (script : Script) (k : OKind)
    (hk : (kindsOf h)[i]? = some k) (hsum : k = .counter ∨ k = .updown)
    (hcl : Clean c (⟨recsFor (some k) i (rrunRev (regOps h)) script, r, collectsInA h + 1⟩ :: cyclesOf i h))
    (hc : c.temp r = .cumulative) (a : Nat) :
    valAt (sumPoints ((amcollect c (amrunRev c h) r script).2.2 i)) a =
      lastObs (⟨recsFor (some k) i (rrunRev (regOps h)) script, r, collectsInA h + 1⟩ :: cyclesOf i h) a := by
  rw [meter_sum_output c i h r script k hk hsum, sumPoints_map]
  exact observable_cumulative_is_reported_total c _ _ hcl hc a

/-- … and a delta reader's point for `a` is that total minus what this reader was given at its own previous
    collection, whatever collections other readers made in between. -/
theorem meter_observable_delta (c : Cfg) (i : Nat) (h : List AOp) (r : Nat) (script : Script) (k : OKind)
    (hk : (kindsOf h)[i]? = some k) (hsum : k = .counter ∨ k = .updown)
    (hcl : Clean c (⟨recsFor (some k) i (rrunRev (regOps h)) script, r, collectsInA h + 1⟩ :: cyclesOf i h))
    (hd : c.temp r = .delta) (a : Nat) :
    valAt (sumPoints ((amcollect c (amrunRev c h) r script).2.2 i)) a =
      lastObs (⟨recsFor (some k) i (rrunRev (regOps h)) script, r, collectsInA h + 1⟩ :: cyclesOf i h) a
        - givenTo r (cyclesOf i h) a := by
  rw [meter_sum_output c i h r script k hk hsum, sumPoints_map]
  exact observable_delta_is_diff_from_own_last c _ _ hcl hd a

/-- example: the meter-level hypotheses are satisfiable and the statement is not vacuous: one observable counter, one
    callback (id 3) reporting 10 then 25 for attribute set 1, a delta reader: it receives 10, then 15. -/
example :
    let c : Cfg := ⟨[.delta]⟩
    let s1 : Script := fun cb => if cb = 3 then [(1, 10)] else []
    let s2 : Script := fun cb => if cb = 3 then [(1, 25)] else []
    let h1 : List AOp := [.addcb 0 3, .create .counter]
    (valAt (sumPoints ((amcollect c (amrunRev c h1) 0 s1).2.2 0)) 1,
     valAt (sumPoints ((amcollect c (amrunRev c (.collect 0 s1 :: h1)) 0 s2).2.2 0)) 1) = (10, 15) := by decide

/-! ## The loop of `observe`, seen from one observable gauge and the sample clock -/

/-- the samples `grecordAll` makes of one invocation's measurements: one tick of the sample clock each -/
def stampAll : Nat → DMap → List (Nat × Sample) × Nat
  | clock, [] => ([], clock)
  | clock, (a, v) :: t => ((a, ⟨v, clock + 1⟩) :: (stampAll (clock + 1) t).1, (stampAll (clock + 1) t).2)

theorem grecordAll_eq : ∀ (ms : DMap) (s : GaugeStorage) (clock : Nat),
    grecordAll s clock ms = ((stampAll clock ms).1.foldl (fun s kv => grecordOne s kv.1 kv.2) s, (stampAll clock ms).2) := by
  intro ms
  induction ms with
  | nil => intro _ _; rfl
  | cons av t ih =>
    obtain ⟨a, v⟩ := av
    intro s clock
    simp only [grecordAll, stampAll, List.foldl_cons]
    exact ih _ _

/-- the stamped observations instrument `i` (an observable gauge) receives from one `Observe`, and the sample clock
    afterwards (every gauge invocation advances the clock, also those on other instruments) -/
def gobs (script : Script) (i : Nat) (kinds : List OKind) : List Reg → Nat → List (Nat × Sample) × Nat
  | [], clock => ([], clock)
  | inv :: t, clock =>
    match kinds[inv.instr]? with
    | some .gauge =>
      let st := stampAll clock (measurements (script inv.cb))
      let r := gobs script i kinds t st.2
      (if inv.instr = i then st.1 ++ r.1 else r.1, r.2)
    | _ => gobs script i kinds t clock

theorem gobs_cons_gauge (script : Script) (i : Nat) {kinds : List OKind} {inv : Reg}
    (hk : kinds[inv.instr]? = some .gauge) (t : List Reg) (clock : Nat) :
    gobs script i kinds (inv :: t) clock =
      (if inv.instr = i then (stampAll clock (measurements (script inv.cb))).1 ++
          (gobs script i kinds t (stampAll clock (measurements (script inv.cb))).2).1
        else (gobs script i kinds t (stampAll clock (measurements (script inv.cb))).2).1,
       (gobs script i kinds t (stampAll clock (measurements (script inv.cb))).2).2) := by
  simp only [gobs, hk]

theorem gobs_cons_other (script : Script) (i : Nat) {kinds : List OKind} {inv : Reg}
    (hk : kinds[inv.instr]? ≠ some .gauge) (t : List Reg) (clock : Nat) :
    gobs script i kinds (inv :: t) clock = gobs script i kinds t clock := by
  rw [gobs]
  split
  · contradiction
  · rfl

theorem observeOne_gauge (script : Script) {m : AMeter} {inv : Reg} (hk : m.kinds[inv.instr]? = some .gauge) :
    observeOne script m inv =
      { m with gauges := setAt m.gauges inv.instr
                 ((stampAll m.clock (measurements (script inv.cb))).1.foldl (fun s kv => grecordOne s kv.1 kv.2)
                   (m.gauges inv.instr)),
               clock := (stampAll m.clock (measurements (script inv.cb))).2 } := by
  simp only [observeOne, hk, grecordAll_eq]

theorem observeOne_other (script : Script) {m : AMeter} {inv : Reg} (hk : m.kinds[inv.instr]? ≠ some .gauge) :
    (observeOne script m inv).gauges = m.gauges ∧ (observeOne script m inv).clock = m.clock := by
  unfold observeOne
  cases hk' : m.kinds[inv.instr]? with
  | none => exact ⟨rfl, rfl⟩
  | some k =>
    cases k with
    | gauge => exact absurd hk' hk
    | counter | updown | syncGauge => exact ⟨rfl, rfl⟩  -- these write neither a gauge storage nor the clock

theorem foldl_observe_gauge (script : Script) (i : Nat) : ∀ (l : Registry) (m : AMeter),
    (l.foldl (observeOne script) m).gauges i =
      (gobs script i m.kinds l m.clock).1.foldl (fun s kv => grecordOne s kv.1 kv.2) (m.gauges i) ∧
    (l.foldl (observeOne script) m).clock = (gobs script i m.kinds l m.clock).2 := by
  intro l
  induction l with
  | nil => exact fun m => ⟨rfl, rfl⟩
  | cons inv t ih =>
    intro m
    obtain ⟨i1, i2⟩ := ih (observeOne script m inv)
    rw [List.foldl_cons, i1, i2, (observeOne_frame script m inv).kinds]
    by_cases hk : m.kinds[inv.instr]? = some .gauge
    · rw [gobs_cons_gauge script i hk, observeOne_gauge script hk]
      by_cases hi : inv.instr = i
      · subst hi; simp only [if_true, setAt_same, List.foldl_append, and_self]
      · simp only [hi, if_false, setAt_other _ _ (Ne.symm hi), and_self]
    · obtain ⟨h1, h2⟩ := observeOne_other script hk
      rw [gobs_cons_other script i hk, h1, h2]; exact ⟨rfl, rfl⟩

theorem increasing_stampAll : ∀ (ms : DMap) (clock : Nat) (rest : List LOp), maxTs rest ≤ clock → Increasing rest →
    Increasing (((stampAll clock ms).1.map fun kv => LOp.record kv.1 kv.2).reverse ++ rest) ∧
    maxTs (((stampAll clock ms).1.map fun kv => LOp.record kv.1 kv.2).reverse ++ rest) ≤ (stampAll clock ms).2 ∧
    clock ≤ (stampAll clock ms).2 := by
  intro ms
  induction ms with
  | nil => exact fun clock rest hb hi => ⟨hi, hb, Nat.le_refl _⟩
  | cons av t ih =>
    obtain ⟨a, v⟩ := av
    intro clock rest hb hi
    have hb' : maxTs (LOp.record a ⟨v, clock + 1⟩ :: rest) ≤ clock + 1 :=
      Nat.max_le.mpr ⟨Nat.le_refl _, Nat.le_trans hb (Nat.le_succ _)⟩
    have hi' : Increasing (LOp.record a ⟨v, clock + 1⟩ :: rest) := ⟨Nat.lt_succ_of_le hb, hi⟩
    obtain ⟨j1, j2, j3⟩ := ih (clock + 1) _ hb' hi'
    simp only [stampAll, List.map_cons, List.reverse_cons, List.append_assoc, List.singleton_append]
    exact ⟨j1, j2, Nat.le_trans (Nat.le_succ _) j3⟩

theorem increasing_gobs (script : Script) (i : Nat) (kinds : List OKind) : ∀ (l : Registry) (clock : Nat) (rest : List LOp),
    maxTs rest ≤ clock → Increasing rest →
    Increasing (((gobs script i kinds l clock).1.map fun kv => LOp.record kv.1 kv.2).reverse ++ rest) ∧
    maxTs (((gobs script i kinds l clock).1.map fun kv => LOp.record kv.1 kv.2).reverse ++ rest) ≤ (gobs script i kinds l clock).2 ∧
    clock ≤ (gobs script i kinds l clock).2 := by
  intro l
  induction l with
  | nil => exact fun clock rest hb hi => ⟨hi, hb, Nat.le_refl _⟩
  | cons inv t ih =>
    intro clock rest hb hi
    by_cases hk : kinds[inv.instr]? = some .gauge
    · obtain ⟨s1, s2, s3⟩ := increasing_stampAll (measurements (script inv.cb)) clock rest hb hi
      rw [gobs_cons_gauge script i hk]
      by_cases hi' : inv.instr = i
      · obtain ⟨g1, g2, g3⟩ := ih _ _ s2 s1
        simp only [hi', if_true, List.map_append, List.reverse_append, List.append_assoc]
        exact ⟨g1, g2, Nat.le_trans s3 g3⟩
      · obtain ⟨g1, g2, g3⟩ := ih _ rest (Nat.le_trans hb s3) hi
        simp only [hi', if_false]
        exact ⟨g1, g2, Nat.le_trans s3 g3⟩
    · rw [gobs_cons_other script i hk]; exact ih clock rest hb hi

/-- `Observe` after history `h`: what it does to gauge `i`'s storage and to the sample clock -/
theorem observe_gauge (c : Cfg) (i : Nat) (h : List AOp) (script : Script) :
    (observe (amrunRev c h) script).gauges i =
      (gobs script i (kindsOf h) (rrunRev (regOps h)) (amrunRev c h).clock).1.foldl
        (fun s kv => grecordOne s kv.1 kv.2) ((amrunRev c h).gauges i) ∧
    (observe (amrunRev c h) script).clock = (gobs script i (kindsOf h) (rrunRev (regOps h)) (amrunRev c h).clock).2 := by
  have := foldl_observe_gauge script i (rrunRev (regOps h)) (amrunRev c h)
  rwa [observe_eq_foldl, invocations, meter_registry, ← amrunRev_kinds c h]

/-! ## Synchronous gauges at the meter -/

/-- the records and collections synchronous gauge `i` sees in a meter history; a sample carries the meter's sample
    clock at the moment of the `Record` (a proof device: the statement below only speaks about values) -/
def lopsOf (c : Cfg) (i : Nat) : List AOp → List LOp
  | [] => []
  | .grec j a v :: o =>
    if j = i ∧ (kindsOf o)[i]? = some .syncGauge then .record a ⟨v, (amrunRev c o).clock + 1⟩ :: lopsOf c i o
    else lopsOf c i o
  | .collect r _ :: o => .collect r (collectsInA o + 1) :: lopsOf c i o
  | .create _ :: o => lopsOf c i o
  | .addcb _ _ :: o => lopsOf c i o
  | .rmcb _ _ :: o => lopsOf c i o
  | .destroy _ :: o => lopsOf c i o

/-- **Specification**: the value most recently recorded on synchronous gauge `i` for attribute set `x` -/
def latestGaugeValue (i : Nat) : List AOp → Nat → Option Int
  | [], _ => none
  | .grec j a v :: o, x =>
    if j = i ∧ (kindsOf o)[i]? = some .syncGauge ∧ a = x then some v else latestGaugeValue i o x
  | .collect _ _ :: o, x => latestGaugeValue i o x
  | .create _ :: o, x => latestGaugeValue i o x
  | .addcb _ _ :: o, x => latestGaugeValue i o x
  | .rmcb _ _ :: o, x => latestGaugeValue i o x
  | .destroy _ :: o, x => latestGaugeValue i o x

theorem latestRec_lopsOf (c : Cfg) (i : Nat) (x : Nat) : ∀ h : List AOp,
    (latestRec (lopsOf c i h) x).map (·.v) = latestGaugeValue i h x := by
  intro h
  induction h with
  | nil => rfl
  | cons op o ih =>
    cases op with
    | grec j a v =>
      simp only [lopsOf, latestGaugeValue]
      by_cases hc : j = i ∧ (kindsOf o)[i]? = some .syncGauge
      · by_cases ha : a = x <;> simp [hc, ha, latestRec, ih]
      · have hc' : ¬ (j = i ∧ (kindsOf o)[i]? = some .syncGauge ∧ a = x) := fun h => hc ⟨h.1, h.2.1⟩
        simp only [hc, hc', if_false]; exact ih
    | _ => exact ih

/-- the meter state is consistent with history `h`, from the point of view of synchronous gauge `i` -/
structure SGInv (c : Cfg) (i : Nat) (h : List AOp) (m : AMeter) : Prop where
  kinds : m.kinds = kindsOf h
  collects : m.collects = collectsInA h
  storage : m.sgauges i = sgrunRev c (lopsOf c i h)
  bound : maxTs (lopsOf c i h) ≤ m.clock
  inc : Increasing (lopsOf c i h)

theorem sginv_run (c : Cfg) (i : Nat) : ∀ h : List AOp, SGInv c i h (amrunRev c h) := by
  intro h
  induction h with
  | nil => exact ⟨rfl, rfl, rfl, Nat.le_refl _, trivial⟩
  | cons op o ih =>
    obtain ⟨hkinds, hcollects, hs, hb, hinc⟩ := ih
    suffices h : (amrunRev c (op :: o)).sgauges i = sgrunRev c (lopsOf c i (op :: o)) ∧
        maxTs (lopsOf c i (op :: o)) ≤ (amrunRev c (op :: o)).clock ∧ Increasing (lopsOf c i (op :: o)) from
      ⟨amrunRev_kinds c _, amrunRev_collects c _, h.1, h.2.1, h.2.2⟩
    cases op with
    | grec j a v =>
      rw [amrunRev, amstep_grec, hkinds]
      by_cases hc : j = i ∧ (kindsOf o)[i]? = some .syncGauge
      · obtain ⟨rfl, hk⟩ := hc
        have hl : lopsOf c j (.grec j a v :: o) = .record a ⟨v, (amrunRev c o).clock + 1⟩ :: lopsOf c j o := by
          simp only [lopsOf, hk, and_self, if_true]
        rw [hl, if_pos hk]
        exact ⟨by simp only [setAt_same, sgrunRev, hs],
          Nat.max_le.mpr ⟨Nat.le_refl _, Nat.le_trans hb (Nat.le_succ _)⟩, Nat.lt_succ_of_le hb, hinc⟩
      · have hl : lopsOf c i (.grec j a v :: o) = lopsOf c i o := by simp only [lopsOf, hc, if_false]
        rw [hl]
        split
        · next hk =>
          have hne : i ≠ j := fun e => hc ⟨e.symm, e ▸ hk⟩
          exact ⟨(setAt_other _ _ hne).trans hs, Nat.le_trans hb (Nat.le_succ _), hinc⟩
        · exact ⟨hs, hb, hinc⟩
    | collect r script =>
      refine ⟨?_, Nat.le_trans hb ?_, hinc⟩
      · rw [amrunRev, amstep, amcollect_sgauges, (observe_frame _ script).sgauges, hs, hcollects]; rfl
      · show (amrunRev c o).clock ≤ (observe (amrunRev c o) script).clock
        rw [(observe_gauge c i o script).2]
        -- over the empty history `increasing_gobs` says just that stamping does not turn the clock back
        exact (increasing_gobs script i _ _ _ (rest := []) (Nat.zero_le _) trivial).2.2
    | _ => exact ⟨hs, hb, hinc⟩

/-- the points of what a reader received for a gauge -/
def lvPoints : Option Out → LMap
  | some (.lv md) => md.points
  | _ => []

theorem lvPoints_map (o : Option LData) : lvPoints (o.map Out.lv) = lpoints o := by
  cases o <;> rfl

/-- For every meter history — gauge `Record` calls
    interleaved with the creation of other instruments, callback registrations and collections by any readers, delta
    or cumulative — a collection reports for synchronous gauge `i`, per attribute set, the value most recently
    recorded (and a point exactly for the sets ever recorded). -/
theorem meter_sync_gauge_reports_latest (c : Cfg) (i : Nat) (h : List AOp) (r : Nat) (script : Script) (hr : r < c.n)
    (hk : (kindsOf h)[i]? = some .syncGauge) (x : Nat) :
    ((lvPoints ((amcollect c (amrunRev c h) r script).2.2 i)).lookup x).map (·.v) = latestGaugeValue i h x := by
  have hi := sginv_run c i h
  rw [amcollect_out, hk, lvPoints_map, hi.storage, gauge_reports_latest_sync c _ hi.inc r _ hr x]
  exact latestRec_lopsOf c i x h

/-- example (not vacuous): two records on one attribute set, a delta reader still receives the latest value -/
example :
    let c : Cfg := ⟨[.delta]⟩
    let h : List AOp := [.grec 0 2 7, .grec 0 2 5, .create .syncGauge]
    ((lvPoints ((amcollect c (amrunRev c h) 0 (fun _ => [])).2.2 0)).lookup 2).map (·.v) = some 7 := by decide

/-! ## Observable gauges at the meter -/

/-- the cycles observable gauge `i`'s storage sees in a meter history (each observation stamped with the meter's
    sample clock, one tick per observation: the theorem below is about these stamped samples, and the stamps are what
    makes the history `Increasing`) -/
def gcyclesOf (c : Cfg) (i : Nat) : List AOp → List GCycle
  | [] => []
  | .collect r script :: o =>
    ⟨(gobs script i (kindsOf o) (rrunRev (regOps o)) (amrunRev c o).clock).1, r, collectsInA o + 1⟩ :: gcyclesOf c i o
  | .create _ :: o => gcyclesOf c i o
  | .addcb _ _ :: o => gcyclesOf c i o
  | .rmcb _ _ :: o => gcyclesOf c i o
  | .destroy _ :: o => gcyclesOf c i o
  | .grec _ _ _ :: o => gcyclesOf c i o

/-- the meter state is consistent with history `h`, from the point of view of observable gauge `i` -/
structure GGInv (c : Cfg) (i : Nat) (h : List AOp) (m : AMeter) : Prop where
  kinds : m.kinds = kindsOf h
  collects : m.collects = collectsInA h
  storage : m.gauges i = grunRev c (gcyclesOf c i h)
  bound : maxTs (translateG (gcyclesOf c i h)) ≤ m.clock
  inc : Increasing (translateG (gcyclesOf c i h))

theorem gginv_run (c : Cfg) (i : Nat) : ∀ h : List AOp, GGInv c i h (amrunRev c h) := by
  intro h
  induction h with
  | nil => exact ⟨rfl, rfl, rfl, Nat.le_refl _, trivial⟩
  | cons op o ih =>
    obtain ⟨_, hcollects, hs, hb, hinc⟩ := ih
    suffices h : (amrunRev c (op :: o)).gauges i = grunRev c (gcyclesOf c i (op :: o)) ∧
        maxTs (translateG (gcyclesOf c i (op :: o))) ≤ (amrunRev c (op :: o)).clock ∧
        Increasing (translateG (gcyclesOf c i (op :: o))) from
      ⟨amrunRev_kinds c _, amrunRev_collects c _, h.1, h.2.1, h.2.2⟩
    cases op with
    | grec j a v =>
      rw [amrunRev, amstep_grec]
      split
      · exact ⟨hs, Nat.le_trans hb (Nat.le_succ _), hinc⟩
      · exact ⟨hs, hb, hinc⟩
    | collect r script =>
      obtain ⟨g1, g2⟩ := observe_gauge c i o script
      obtain ⟨k1, k2, _⟩ := increasing_gobs script i (kindsOf o) (rrunRev (regOps o)) (amrunRev c o).clock
        (translateG (gcyclesOf c i o)) hb hinc
      refine ⟨?_, ?_, k1⟩
      · rw [amrunRev, amstep, amcollect_gauges, g1, hs, hcollects]; rfl
      · show _ ≤ (observe (amrunRev c o) script).clock
        rw [g2]; exact k2
    | _ => exact ⟨hs, hb, hinc⟩

/-- every collection of the history is made by a configured reader -/
def ValidA (c : Cfg) : List AOp → Prop
  | [] => True
  | .collect r _ :: o => r < c.n ∧ ValidA c o
  | .create _ :: o => ValidA c o
  | .addcb _ _ :: o => ValidA c o
  | .rmcb _ _ :: o => ValidA c o
  | .destroy _ :: o => ValidA c o
  | .grec _ _ _ :: o => ValidA c o

theorem valid_gcycles (c : Cfg) (i : Nat) : ∀ h : List AOp, ValidA c h → ∀ y ∈ gcyclesOf c i h, y.r < c.n := by
  intro h hv y hy
  induction h with
  | nil => cases hy
  | cons op o ih =>
    cases op with
    | collect r s =>
      rcases List.mem_cons.mp hy with rfl | hy
      · exact hv.1
      · exact ih hv.2 hy
    | _ => exact ih hv hy

/-- For every meter history, a collection reports for
    observable gauge `i`, per attribute set, to a cumulative reader the most recent observation made by the callbacks
    registered on `i` (in this or an earlier collection by any reader), to a delta reader the most recent observation
    of its own interval.  The increasing sample times are derived from the meter's sample clock.  `translateG` of the
    history with this collection starts with the collection itself; `.tail` drops it, so that the specification is
    asked about this cycle's observations followed by the earlier history. -/
theorem meter_observable_gauge_reports_latest (c : Cfg) (i : Nat) (h : List AOp) (r : Nat) (script : Script)
    (hv : ValidA c (.collect r script :: h)) (hk : (kindsOf h)[i]? = some .gauge) (x : Nat) :
    (lvPoints ((amcollect c (amrunRev c h) r script).2.2 i)).lookup x =
      match c.temp r with
      | .cumulative => latestRec (translateG (gcyclesOf c i (.collect r script :: h))).tail x
      | .delta => latestSince r (translateG (gcyclesOf c i (.collect r script :: h))).tail x := by
  have htail : (translateG (gcyclesOf c i (.collect r script :: h))).tail =
      gRecs ⟨(gobs script i (kindsOf h) (rrunRev (regOps h)) (amrunRev c h).clock).1, r, collectsInA h + 1⟩ ++
        translateG (gcyclesOf c i h) := rfl
  rw [htail, amcollect_out, hk, lvPoints_map, (observe_gauge c i h script).1, (gginv_run c i h).storage]
  exact gauge_reports_latest_observable_cycle c (gcyclesOf c i h) _
    (valid_gcycles c i _ hv) (gginv_run c i (.collect r script :: h)).inc x

/-- example (not vacuous): callback 3 observes 4 then 9 for attribute set 1; a cumulative reader receives 9 -/
example :
    let c : Cfg := ⟨[.cumulative]⟩
    let s1 : Script := fun cb => if cb = 3 then [(1, 4)] else []
    let s2 : Script := fun cb => if cb = 3 then [(1, 9)] else []
    let h : List AOp := [.collect 0 s1, .addcb 0 3, .create .gauge]
    ((lvPoints ((amcollect c (amrunRev c h) 0 s2).2.2 0)).lookup 1).map (·.v) = some 9 := by decide

end Otel.C17
