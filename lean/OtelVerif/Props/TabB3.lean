import OtelVerif.Model.TabB3
import OtelVerif.Gen.TabB3
import OtelVerif.Lemmas.Tab
/-! # The model equals the code's graph: the sampling field of `b3_propagator.h` and `jaeger.h` -/
namespace Otel.Tab
open Otel

/-- which one-character values of the B3 sampling field mean "sampled": all 256 -/
theorem tab_b3FlagsFromHex1 : ∀ b : UInt8, TabModel.b3FlagsFromHex1 b = Gen.Tab.b3FlagsFromHex1 b := forall_byte _ (by decide +kernel)
theorem tab_b3FlagsFromHexShort : ∀ p ∈ Gen.Tab.b3FlagsFromHexShort, TabModel.b3FlagsFromHexShort p.1 = p.2 :=
  graph_of_chunks _ _ _ (by decide +kernel)

theorem ctxWith_valid (f : UInt8) : (TabModel.ctxWith f).isValid = true := by
  simp only [TraceContext.SpanCtx.isValid, TabModel.ctxWith]; decide +kernel

/-- the last character of the single header depends on the flags through `isSampled` only, so the sweep below
    does not run the injector -/
theorem b3InjectSingleChar_eq (f : UInt8) :
    TabModel.b3InjectSingleChar f = if B3.isSampled f then Gen.b3InjectSampled else Gen.b3InjectNotSampled := by
  simp only [TabModel.b3InjectSingleChar, B3.injectSingle, ctxWith_valid, Bool.not_true, Bool.false_eq_true, if_false,
    Option.getD_some, List.getLastD_concat]
  rfl
theorem tab_b3InjectSingleChar : ∀ b : UInt8, TabModel.b3InjectSingleChar b = Gen.Tab.b3InjectSingleChar b := by
  simp only [b3InjectSingleChar_eq]; exact forall_byte _ (by decide +kernel)
theorem tab_b3InjectMultiSampled : ∀ b : UInt8, TabModel.b3InjectMultiSampled b = Gen.Tab.b3InjectMultiSampled b :=
  eq_table _ _ _ (by decide +kernel)
theorem tab_jaegerGetTraceFlags : ∀ b : UInt8, TabModel.jaegerGetTraceFlags b = Gen.Tab.jaegerGetTraceFlags b := forall_byte _ (by decide +kernel)
theorem jaegerInjectChar_eq (f : UInt8) :
    TabModel.jaegerInjectChar f = if B3.isSampled f then Gen.jaegerInjectSampled else Gen.jaegerInjectNotSampled := by
  simp only [TabModel.jaegerInjectChar, Jaeger.inject, ctxWith_valid, Bool.not_true, Bool.false_eq_true, if_false,
    Option.getD_some, List.getLastD_concat]
  rfl
theorem tab_jaegerInjectChar : ∀ b : UInt8, TabModel.jaegerInjectChar b = Gen.Tab.jaegerInjectChar b := by
  simp only [jaegerInjectChar_eq]; exact forall_byte _ (by decide +kernel)

end Otel.Tab
