import OtelVerif.Model.LogRecord
import OtelVerif.Lemmas.Attr
/-! # C13 — an exported log record carries what was emitted, correlated with the active span

Property theorems about `Model/LogRecord.lean` (mirrors `logger.cc`, `read_write_log_record.{h,cc}`, `logger.h` +
`logger_type_traits.h`, `multi_recordable.cc`, `multi_log_record_processor.cc`, `simple_log_record_processor.cc` and the
hand-over / flush behaviour of the batch processor).  A *program* is an arbitrary list of operations on three kinds of
state: per-thread context stacks (push / pop of contexts carrying a span), log records (create, typed setters, emit
through the enabled or the disabled logger, null and already-emitted records) and the caller's memory (every body /
attribute argument lives in a caller cell that may later be overwritten or freed); `run` appends the final flush.

What is proved for every program / argument list, and what is not:
* the argument pack is a left-to-right fold of typed setters, the later argument wins per field (`emit_fields`,
  `emit_attrs_last_write_wins`, `emit_identity_componentwise`);
* correlation (`correlation_active_span`, `explicit_identity_wins`, `no_active_span_zero_ids`,
  `active_span_is_top_of_own_stack`);
* `null_record_ignored`, `emitted_record_is_gone`, `disabled_logger_emits_nothing`, `disabled_logger_program`;
* `each_processor_once`, `emit_reaches_every_processor_once`, `fanout_identical_children`;
* **values at export = values at emit** is FALSE of the code as it is for deferred export (D14: `ReadWriteLogRecord` keeps
  non-owning `AttributeValue`s): `exported_eq_emitted_witness` / `…_uaf_witness` exhibit it in the model (and the harness
  on the code); what holds is `exported_eq_emitted_partial` (the caller did not touch the record's cells between emit and
  export — `untouched_cells_stay_readable`), which is always the case for the simple processor because it exports inside
  `Emit` (`simple_processor_exports_emitted_values`).
* the `EventId` wrapper keeps its name as a C string: `eventid_name_partial` + `eventid_name_witness`;
  `eventid_without_name` is the behaviour after fix D64. -/
namespace Otel.C13
open Otel Otel.SAttr Otel.LogRecord

def selSeverity : Arg → Option Nat
  | .severity n => some n
  | _ => none
def selTimestamp : Arg → Option Int
  | .timestamp t => some t
  | _ => none
/-- SPEC: the event id and name an `EventId` argument supplies (the wrapper holds the name as a C string) -/
def selEvent : Arg → Option (Int × Bytes)
  | .eventId id name => some (id, cString (name.getD []))
  | _ => none
def selBody : Arg → Option Stored
  | .body buf v => some ⟨buf, 0, v⟩
  | _ => none
/-- SPEC: the arguments that supply a trace id / span id / trace flags: the component itself or a whole `SpanContext` -/
def selTraceId : Arg → Option Bytes
  | .traceId t => some t
  | .spanContext t _ _ => some t
  | _ => none
def selSpanId : Arg → Option Bytes
  | .spanId s => some s
  | .spanContext _ s _ => some s
  | _ => none
def selFlags : Arg → Option UInt8
  | .traceFlags f => some f
  | .spanContext _ _ f => some f
  | _ => none

/-- For every argument list in every order: severity, timestamp, event id + name and body of the emitted
    record are those of the *last* argument of the matching kind, and the record's previous value when there is none. -/
theorem emit_fields (r : Record) (args : List Arg) :
    (r.setAll args).severity = ((args.filterMap selSeverity).getLast?).getD r.severity ∧
    (r.setAll args).timestamp = ((args.filterMap selTimestamp).getLast?).getD r.timestamp ∧
    ((r.setAll args).eventId, (r.setAll args).eventName) = ((args.filterMap selEvent).getLast?).getD (r.eventId, r.eventName) ∧
    (r.setAll args).body = ((args.filterMap selBody).getLast?).getD r.body :=
  ⟨foldl_last Record.set (·.severity) selSeverity (by intro r a; cases a <;> rfl) args r,
   foldl_last Record.set (·.timestamp) selTimestamp (by intro r a; cases a <;> rfl) args r,
   foldl_last Record.set (fun r => (r.eventId, r.eventName)) selEvent (by intro r a; cases a <;> rfl) args r,
   foldl_last Record.set (·.body) selBody (by intro r a; cases a <;> rfl) args r⟩

/-- Trace id, span id and trace flags are set independently: each is the one of the last
    argument that supplies that component (the component itself or a `SpanContext`), else what the record had. -/
theorem emit_identity_componentwise (r : Record) (args : List Arg) :
    (r.setAll args).identity.traceId = ((args.filterMap selTraceId).getLast?).getD r.identity.traceId ∧
    (r.setAll args).identity.spanId = ((args.filterMap selSpanId).getLast?).getD r.identity.spanId ∧
    (r.setAll args).identity.flags = ((args.filterMap selFlags).getLast?).getD r.identity.flags :=
  ⟨foldl_last Record.set (·.identity.traceId) selTraceId (by intro r a; cases a <;> rfl) args r,
   foldl_last Record.set (·.identity.spanId) selSpanId (by intro r a; cases a <;> rfl) args r,
   foldl_last Record.set (·.identity.flags) selFlags (by intro r a; cases a <;> rfl) args r⟩

/-- SPEC: the attribute writes of an argument list in call order; pair `i` of an attribute argument living in caller
    cell `buf` is stored as a view of element `i` of that cell -/
def writesOf : Arg → List (Bytes × Stored)
  | .attributes buf kvs => kvs.zipIdx.map fun p => (p.1.1, ⟨buf, p.2, p.1.2⟩)
  | _ => []

def attrWrites (args : List Arg) : List (Bytes × Stored) := args.flatMap writesOf

theorem lookupAttr_setAttr (k k' : Bytes) (s : Stored) (m : List (Bytes × Stored)) :
    lookupAttr k' (setAttr k s m) = if k = k' then some s else lookupAttr k' m := by
  induction m with
  | nil => rfl
  | cons e t ih =>
    obtain ⟨k2, s2⟩ := e
    by_cases h : k2 = k
    · by_cases h' : k = k' <;> simp [setAttr, lookupAttr, h, h']
    · by_cases h' : k2 = k'
      · subst h'; simp [setAttr, lookupAttr, h, Ne.symm h]
      · simp [setAttr, lookupAttr, h, h', ih]

theorem setAttrsFrom_eq (buf : BufId) (kvs : List (Bytes × Value)) (i : Nat) (m : List (Bytes × Stored)) :
    setAttrsFrom buf i kvs m =
      ((kvs.zipIdx i).map fun p => ((p.1.1, ⟨buf, p.2, p.1.2⟩) : Bytes × Stored)).foldl (fun m w => setAttr w.1 w.2 m) m := by
  induction kvs generalizing i m with
  | nil => rfl
  | cons kv t ih => exact ih (i + 1) _

theorem attrs_setAll (args : List Arg) (r : Record) :
    (r.setAll args).attrs = (attrWrites args).foldl (fun m w => setAttr w.1 w.2 m) r.attrs := by
  induction args generalizing r with
  | nil => rfl
  | cons a t ih =>
    show ((r.set a).setAll t).attrs = _
    rw [ih]
    simp only [attrWrites, List.flatMap_cons, List.foldl_append]
    congr 1
    cases a with
    | attributes buf kvs => exact setAttrsFrom_eq ..
    | _ => rfl

/-- For every key: the attribute of the emitted record is the one written last for that key
    across all attribute arguments in call order (whatever the value alternatives), else what the record had. -/
theorem emit_attrs_last_write_wins (r : Record) (args : List Arg) (k : Bytes) :
    lookupAttr k (r.setAll args).attrs =
      match lastWrite k (attrWrites args) with
      | some s => some s
      | none => lookupAttr k r.attrs := by
  rw [attrs_setAll]
  exact (lookup_foldl_set lookupAttr setAttr lookupAttr_setAttr id k _ _).trans
    (by cases lastWrite k (attrWrites args) <;> rfl)

/-- SPEC: what thread `t`'s own push / pop operations do to its stack of active spans -/
def stackEffect (t : ThreadId) : Op → Option (List Identity → List Identity)
  | .push t' sp => if t' = t then some (sp :: ·) else none
  | .pop t' => if t' = t then some List.tail else none
  | _ => none

/-- SPEC: thread `t`'s stack after a program — a function of `t`'s own pushes and pops only -/
def specStack (t : ThreadId) (ops : List Op) : List Identity :=
  (ops.filterMap (stackEffect t)).foldl (fun st f => f st) []

theorem stackOf_filter_ne {t t' : ThreadId} (h : t' ≠ t) (st : List (ThreadId × List Identity)) :
    stackOf (st.filter (·.1 ≠ t')) t = stackOf st t := by
  induction st with
  | nil => rfl
  | cons e rest ih =>
    obtain ⟨t2, s2⟩ := e
    by_cases h2 : t2 = t'
    · subst h2; simpa [stackOf, h] using ih
    · by_cases h3 : t2 = t
      · subst h3; simp [stackOf, h2]
      · simpa [stackOf, h2, h3] using ih

theorem stackOf_setStack (st : List (ThreadId × List Identity)) (t t' : ThreadId) (x : List Identity) :
    stackOf (setStack st t' x) t = if t' = t then x else stackOf st t := by
  by_cases h : t' = t
  · simp [setStack, stackOf, h]
  · unfold setStack
    simp only [stackOf, h, if_false]
    exact stackOf_filter_ne h st

theorem exec_invariant (P : State → Prop) (hstep : ∀ s op, P s → P (step s op)) :
    ∀ (ops : List Op) (s : State), P s → P (exec s ops) := by
  intro ops
  induction ops with
  | nil => intro s h; exact h
  | cons op t ih => intro s h; exact ih _ (hstep s op h)

theorem exec_append (s : State) (a b : List Op) : exec s (a ++ b) = exec (exec s a) b := List.foldl_append ..

theorem emitSlot_frame (s : State) (slot : Slot) (args : List Arg) :
    (emitSlot s slot args).cfg = s.cfg ∧ (emitSlot s slot args).stacks = s.stacks ∧
    (emitSlot s slot args).records = s.records ∧ (emitSlot s slot args).heap = args.foldl Arg.alloc s.heap := by
  cases slot <;> exact ⟨rfl, rfl, rfl, rfl⟩

theorem step_emit (s : State) (t : ThreadId) (e : Bool) (target : Target) (args : List Arg) :
    step s (.emit t e target args) = s ∨ ∃ slot recs, (∀ x ∈ recs, x ∈ s.records) ∧
      step s (.emit t e target args) = emitSlot { s with records := recs } slot args := by
  cases target with
  | null => exact .inl rfl
  | fresh => exact .inr ⟨_, s.records, fun _ h => h, rfl⟩
  | existing r =>
    simp only [step]
    split
    · exact .inl rfl
    · exact .inr ⟨_, _, fun _ h => (List.mem_filter.mp h).1, rfl⟩

theorem stackOf_step (s : State) (op : Op) (t : ThreadId) :
    stackOf (step s op).stacks t = match stackEffect t op with
      | some f => f (stackOf s.stacks t)
      | none => stackOf s.stacks t := by
  cases op with
  | push t' sp => by_cases h : t' = t <;> simp [step, stackEffect, stackOf_setStack, h]
  | pop t' => by_cases h : t' = t <;> simp [step, stackEffect, stackOf_setStack, h]
  | set r a => simp only [step, stackEffect]; split <;> rfl
  | emit t' e target args =>
    rcases step_emit s t' e target args with h | ⟨slot, recs, _, h⟩ <;> rw [h]
    · rfl
    · rw [(emitSlot_frame ..).2.1]; rfl
  | scribble b => simp only [step, stackEffect]; split <;> rfl
  | _ => rfl

/-- After any program (any interleaving of the threads' operations, nested pushes,
    record and memory operations in between), the span active on thread `t` is the top of the stack that `t`'s *own*
    pushes and pops build — other threads' contexts never show through, and a pop re-activates the span below. -/
theorem active_span_is_top_of_own_stack (c : Cfg) (ops : List Op) (t : ThreadId) :
    activeSpan (exec (init c) ops) t = (specStack t ops).head? := by
  have key : ∀ (ops : List Op) (s : State), stackOf (exec s ops).stacks t =
      (ops.filterMap (stackEffect t)).foldl (fun st f => f st) (stackOf s.stacks t) := by
    intro ops
    induction ops with
    | nil => intro s; rfl
    | cons op rest ih =>
      intro s
      show stackOf (exec (step s op) rest).stacks t = _
      rw [ih, stackOf_step, List.filterMap_cons]
      cases stackEffect t op <;> rfl
  unfold activeSpan specStack
  rw [key]
  rfl

/-- the record `CreateLogRecord` makes on thread `t` (one equal child per processor) -/
def freshRecord (s : State) (t : ThreadId) : Record :=
  match activeSpan s t with
  | none => {}
  | some sp => ((({} : Record).set (.traceId sp.traceId)).set (.traceFlags sp.flags)).set (.spanId sp.spanId)

theorem createLive_eq (s : State) (t : ThreadId) :
    createLive s t = List.replicate s.cfg.procs.length (freshRecord s t) := by
  simp only [createLive, List.map_const']
  rfl

theorem identity_createLive {s : State} {t : ThreadId} {r : Record} (hr : r ∈ createLive s t) :
    r.identity = (activeSpan s t).getD zeroIdentity := by
  rw [createLive_eq] at hr
  rw [List.eq_of_mem_replicate hr, freshRecord]
  cases activeSpan s t <;> rfl

/-- A record created while a span is active on the calling thread carries that span's trace
    id, span id and trace flags (every child, i.e. every processor's copy). -/
theorem correlation_active_span (s : State) (t : ThreadId) (sp : Identity) (h : activeSpan s t = some sp) :
    ∀ r ∈ createLive s t, r.identity = sp :=
  fun r hr => (identity_createLive hr).trans (by rw [h]; rfl)

/-- With no active span the created record's ids are all-zero (16 and 8 zero bytes, flags 0). -/
theorem no_active_span_zero_ids (s : State) (t : ThreadId) (h : activeSpan s t = none) :
    ∀ r ∈ createLive s t, r.identity = zeroIdentity ∧
      zeroIdentity = ⟨[0, 0, 0, 0, 0, 0, 0, 0, 0, 0, 0, 0, 0, 0, 0, 0], [0, 0, 0, 0, 0, 0, 0, 0], 0⟩ :=
  fun r hr => ⟨(identity_createLive hr).trans (by rw [h]; rfl), rfl⟩

/-- For `EmitLogRecord(args…)` on thread `t`: each identity component of the
    emitted record is the explicitly supplied one when an argument supplies it (the last such argument), and otherwise
    the active span's component — or zero when no span is active. -/
theorem explicit_identity_wins (s : State) (t : ThreadId) (args : List Arg) (r : Record) (hr : r ∈ createLive s t) :
    (r.setAll args).identity.traceId
        = ((args.filterMap selTraceId).getLast?).getD ((activeSpan s t).getD zeroIdentity).traceId ∧
    (r.setAll args).identity.spanId
        = ((args.filterMap selSpanId).getLast?).getD ((activeSpan s t).getD zeroIdentity).spanId ∧
    (r.setAll args).identity.flags
        = ((args.filterMap selFlags).getLast?).getD ((activeSpan s t).getD zeroIdentity).flags := by
  have := emit_identity_componentwise r args
  rwa [identity_createLive hr] at this

/-- `EmitLogRecord(nullptr, args…)` changes nothing at all. -/
theorem null_record_ignored (s : State) (t : ThreadId) (e : Bool) (args : List Arg) :
    step s (.emit t e .null args) = s := rfl

theorem findRec_eraseRec (rs : List (RecId × Slot)) (r : RecId) : findRec (eraseRec rs r) r = none := by
  induction rs with
  | nil => rfl
  | cons e t ih =>
    obtain ⟨r', sl⟩ := e
    by_cases h : r' = r
    · simpa [eraseRec, h] using ih
    · simpa [eraseRec, h, findRec] using ih

/-- A record can be emitted once: afterwards it is no longer in the program's hands, and
    emitting a record that is not in hand (already emitted, never created) changes nothing at all. -/
theorem emitted_record_is_gone (s : State) (t : ThreadId) (e : Bool) (r : RecId) (args : List Arg) :
    findRec (step s (.emit t e (.existing r) args)).records r = none ∧
    (findRec s.records r = none → step s (.emit t e (.existing r) args) = s) := by
  refine ⟨?_, fun h => by simp [step, h]⟩
  simp only [step]
  split
  · assumption
  · rw [(emitSlot_frame ..).2.2.1]; exact findRec_eraseRec ..

/-- `EmitLogRecord(args…)` through the disabled logger, and emitting a record
    that the disabled logger created, hand nothing to any processor. -/
theorem disabled_logger_emits_nothing (s : State) (t : ThreadId) (args : List Arg) :
    (step s (.emit t false .fresh args)).procs = s.procs ∧
    ∀ r e, findRec s.records r = some .noop → (step s (.emit t e (.existing r) args)).procs = s.procs :=
  ⟨rfl, fun r e h => by simp [step, h, emitSlot]⟩

theorem deliver_replicate (h : Heap) (ps : List Proc) (r : Record) :
    deliver h ps (List.replicate ps.length r) = ps.map (·.emit h r) := by
  induction ps with
  | nil => rfl
  | cons p t ih => simp [deliver, List.replicate_succ, ih]

def Uniform (n : Nat) (s : State) : Prop :=
  s.cfg.procs.length = n ∧ s.procs.length = n ∧
  ∀ e ∈ s.records, ∀ ch, e.2 = Slot.live ch → ∃ r, ch = List.replicate n r

theorem mem_of_findRec {rs : List (RecId × Slot)} {r : RecId} {sl : Slot} (h : findRec rs r = some sl) : (r, sl) ∈ rs := by
  induction rs with
  | nil => simp [findRec] at h
  | cons e t ih =>
    obtain ⟨r', sl'⟩ := e
    by_cases hr : r' = r
    · simp [findRec, hr] at h; subst h; subst hr; simp
    · simp [findRec, hr] at h; exact List.mem_cons_of_mem _ (ih h)

theorem cfg_step (s : State) (op : Op) : (step s op).cfg = s.cfg := by
  cases op with
  | set r a => simp only [step]; split <;> rfl
  | emit t e target args =>
    rcases step_emit s t e target args with h | ⟨slot, recs, _, h⟩ <;> rw [h]
    exact (emitSlot_frame ..).1
  | scribble b => simp only [step]; split <;> rfl
  | _ => rfl

theorem mem_records_step {s : State} {op : Op} {x : RecId × Slot} (h : x ∈ (step s op).records) :
    x ∈ s.records ∨ (∃ t e, op = .create t e x.1 ∧ x.2 = if e then .live (createLive s t) else .noop) ∨
    ∃ a ch, op = .set x.1 a ∧ (x.1, Slot.live ch) ∈ s.records ∧ x.2 = .live (ch.map (·.set a)) := by
  have erased : ∀ {r}, x ∈ eraseRec s.records r → x ∈ s.records := fun h => (List.mem_filter.mp h).1
  cases op with
  | create t e r =>
    rcases List.mem_cons.mp h with rfl | h
    · exact .inr (.inl ⟨t, e, rfl, rfl⟩)
    · exact .inl (erased h)
  | set r a =>
    simp only [step] at h
    split at h
    · rename_i ch hf
      rcases List.mem_cons.mp h with rfl | h
      · exact .inr (.inr ⟨a, ch, rfl, mem_of_findRec hf, rfl⟩)
      · exact .inl (erased h)
    · exact .inl h
  | emit t e target args =>
    rcases step_emit s t e target args with e | ⟨slot, recs, hsub, e⟩ <;> rw [e] at h
    · exact .inl h
    · rw [(emitSlot_frame ..).2.2.1] at h; exact .inl (hsub x h)
  | scribble b => simp only [step] at h; split at h <;> exact .inl h
  | _ => exact .inl h

/-- what one operation does to the processors: nothing, one hand-over of the *same* record to every processor, or a flush -/
inductive ProcsChange (s s' : State) : Prop where
  | same (h : s'.procs = s.procs)
  | emitted (r : Record) (hp : Heap) (h : s'.procs = s.procs.map (·.emit hp r))
  | flushed (hp : Heap) (h : s'.procs = s.procs.map (Proc.flush hp))

/-- SPEC: an operation emits iff it is an `EmitLogRecord` through the enabled logger with a record: a fresh one, or one in
    hand that the enabled logger created (not null, not already emitted, not a disabled logger's) -/
def effective (s : State) : Op → Bool
  | .emit _ enabled .fresh _ => enabled
  | .emit _ _ (.existing r) _ =>
    match findRec s.records r with
    | some (.live _) => true
    | _ => false
  | _ => false

theorem emitSlot_live (s : State) (args : List Arg) (r : Record) (n : Nat) (hl : s.procs.length = n) :
    (emitSlot s (.live (List.replicate n r)) args).procs
      = s.procs.map (·.emit (args.foldl Arg.alloc s.heap)
          { r.setAll args with resource := some s.cfg.resource, scope := some s.cfg.scope }) := by
  simp only [emitSlot, emitLive, List.map_replicate]
  rw [← hl, deliver_replicate]

/-- the record `EmitLogRecord(args…)` hands to the processors on thread `t`: the fresh record (correlated with the active
    span), the argument pack applied left to right, then the provider's resource and the logger's scope -/
def emittedRecord (s : State) (t : ThreadId) (args : List Arg) : Record :=
  { (freshRecord s t).setAll args with resource := some s.cfg.resource, scope := some s.cfg.scope }

theorem procs_emit_fresh {n : Nat} {s : State} (hu : Uniform n s) (t : ThreadId) (args : List Arg) :
    (step s (.emit t true .fresh args)).procs
      = s.procs.map (·.emit (args.foldl Arg.alloc s.heap) (emittedRecord s t args)) := by
  simp only [step, if_true, createLive_eq, hu.1]
  exact emitSlot_live s args _ n hu.2.1

theorem procs_step {n : Nat} {s : State} (hu : Uniform n s) (op : Op) :
    effective s op = false ∧ (step s op).procs = s.procs ∨
    effective s op = true ∧ (∃ r hp, (step s op).procs = s.procs.map (·.emit hp r)) ∨
    op = .flush ∧ (step s op).procs = s.procs.map (Proc.flush s.heap) := by
  cases op with
  | flush => exact .inr (.inr ⟨rfl, rfl⟩)
  | set r a => exact .inl ⟨rfl, by simp only [step]; split <;> rfl⟩
  | scribble b => exact .inl ⟨rfl, by simp only [step]; split <;> rfl⟩
  | emit t e target args =>
    cases target with
    | null => exact .inl ⟨rfl, rfl⟩
    | fresh =>
      cases e with
      | false => exact .inl ⟨rfl, rfl⟩
      | true => exact .inr (.inl ⟨rfl, _, _, procs_emit_fresh hu t args⟩)
    | existing r =>
      simp only [effective, step]
      cases hf : findRec s.records r with
      | none => exact .inl ⟨rfl, rfl⟩
      | some slot =>
        cases slot with
        | noop => exact .inl ⟨rfl, rfl⟩
        | live ch =>
          obtain ⟨r0, rfl⟩ := hu.2.2 _ (mem_of_findRec hf) ch rfl
          exact .inr (.inl ⟨rfl, _, _, emitSlot_live { s with records := eraseRec s.records r } args r0 n hu.2.1⟩)
  | _ => exact .inl ⟨rfl, rfl⟩

theorem procsChange_step {n : Nat} {s : State} (hu : Uniform n s) (op : Op) : ProcsChange s (step s op) := by
  rcases procs_step hu op with ⟨_, h⟩ | ⟨_, r, hp, h⟩ | ⟨_, h⟩
  · exact .same h
  · exact .emitted r hp h
  · exact .flushed _ h

theorem uniform_step {n : Nat} {s : State} (hu : Uniform n s) (op : Op) : Uniform n (step s op) := by
  refine ⟨by rw [cfg_step]; exact hu.1, ?_, fun x hx ch hch => ?_⟩
  · rcases procs_step hu op with ⟨_, h⟩ | ⟨_, _, _, h⟩ | ⟨_, h⟩ <;> simp [h, hu.2.1]
  · rcases mem_records_step hx with h | ⟨t, e, -, h⟩ | ⟨a, ch0, -, hm, h⟩
    · exact hu.2.2 x h ch hch
    · cases e with
      | false => rw [h] at hch; cases hch
      | true => exact ⟨_, by rw [← hu.1, ← createLive_eq, ← Slot.live.inj (h.symm.trans hch)]⟩
    · obtain ⟨r0, rfl⟩ := hu.2.2 _ hm ch0 rfl
      exact ⟨r0.set a, by rw [← Slot.live.inj (h.symm.trans hch), List.map_replicate]⟩

theorem uniform_init (c : Cfg) : Uniform c.procs.length (init c) := ⟨rfl, by simp [init], by simp [init]⟩

/-- In every reachable state, every record in hand has exactly one child per configured
    processor and all children are equal — so at `Emit` every processor is handed the same record. -/
theorem fanout_identical_children (c : Cfg) (ops : List Op) : Uniform c.procs.length (exec (init c) ops) :=
  exec_invariant (Uniform c.procs.length) (fun _ op h => uniform_step h op) ops (init c) (uniform_init c)

/-- In a reachable state, an effective `EmitLogRecord` hands one and the
    same record to every processor exactly once (`OnEmit` count + 1 each); every other operation except `ForceFlush` leaves
    all processors — counters, queues, exporter logs — untouched. -/
theorem emit_reaches_every_processor_once (c : Cfg) (pre : List Op) (op : Op) :
    (effective (exec (init c) pre) op = true →
      ∃ r hp, (step (exec (init c) pre) op).procs = (exec (init c) pre).procs.map (·.emit hp r)) ∧
    (effective (exec (init c) pre) op = false → op ≠ .flush →
      (step (exec (init c) pre) op).procs = (exec (init c) pre).procs) := by
  rcases procs_step (fanout_identical_children c pre) op with ⟨he, h⟩ | ⟨he, h⟩ | ⟨hf, _⟩
  · exact ⟨fun h' => absurd (he.symm.trans h') nofun, fun _ _ => h⟩
  · exact ⟨fun _ => h, fun h' => absurd (he.symm.trans h') nofun⟩
  · subst hf; exact ⟨nofun, fun _ h' => absurd rfl h'⟩

/-- SPEC: the number of effective emits of a program -/
def emitCount (s : State) : List Op → Nat
  | [] => 0
  | op :: t => (if effective s op then 1 else 0) + emitCount (step s op) t

def Accounted (n : Nat) (p : Proc) : Prop :=
  p.onEmit = n ∧ p.exports.flatten.length + p.queue.length = n ∧ (p.kind = .simple → p.queue = [])

theorem accounted_emit {n : Nat} {p : Proc} (h : Accounted n p) (hp : Heap) (r : Record) : Accounted (n + 1) (p.emit hp r) := by
  obtain ⟨h1, h2, h3⟩ := h
  cases hk : p.kind with
  | simple =>
    have hq := h3 hk
    simp only [Proc.emit, hk, Accounted]
    refine ⟨by omega, ?_, fun _ => hq⟩
    simp only [List.flatten_append, List.length_append, List.flatten_cons, List.flatten_nil, List.length_cons,
      List.length_nil, List.append_nil]
    omega
  | batch =>
    simp only [Proc.emit, hk, Accounted]
    refine ⟨by omega, ?_, fun h => by cases h⟩
    simp only [List.length_append, List.length_cons, List.length_nil]
    omega

theorem accounted_flush {n : Nat} {p : Proc} (h : Accounted n p) (hp : Heap) :
    Accounted n (p.flush hp) ∧ (p.flush hp).queue = [] := by
  obtain ⟨h1, h2, h3⟩ := h
  cases hk : p.kind with
  | simple =>
    have hq := h3 hk
    have : p.flush hp = p := by simp [Proc.flush, hk]
    rw [this]
    exact ⟨⟨h1, h2, h3⟩, hq⟩
  | batch =>
    cases hq : p.queue with
    | nil =>
      have : p.flush hp = p := by simp [Proc.flush, hk, hq]
      rw [this]
      exact ⟨⟨h1, h2, h3⟩, hq⟩
    | cons a t =>
      simp only [Proc.flush, hk, hq, Accounted]
      refine ⟨⟨h1, ?_, fun h => by cases h⟩, by trivial⟩
      rw [hq] at h2
      simp only [List.flatten_append, List.length_append, List.flatten_cons, List.flatten_nil, List.length_cons,
        List.length_nil, List.append_nil, List.length_map] at h2 ⊢
      omega

theorem accounted_step {N n : Nat} {s : State} (hu : Uniform N s) (h : ∀ p ∈ s.procs, Accounted n p) (op : Op) :
    ∀ p ∈ (step s op).procs, Accounted (n + if effective s op then 1 else 0) p := by
  rcases procs_step hu op with ⟨he, hp⟩ | ⟨he, r, hp', hp⟩ | ⟨rfl, hp⟩ <;> rw [hp]
  · simpa [he] using h
  · simpa [he] using fun p hp0 => accounted_emit (h p hp0) hp' r
  · exact List.forall_mem_map.mpr fun p hp0 => (accounted_flush (h p hp0) _).1

theorem accounted_exec (N : Nat) (ops : List Op) : ∀ (s : State) (n : Nat), Uniform N s → (∀ p ∈ s.procs, Accounted n p) →
    ∀ p ∈ (exec s ops).procs, Accounted (n + emitCount s ops) p := by
  induction ops with
  | nil => intro s n _ h; exact h
  | cons op t ih =>
    intro s n hu h
    rw [emitCount, ← Nat.add_assoc]
    exact ih (step s op) _ (uniform_step hu op) (accounted_step hu h op)
/-- For every configuration (any mix of simple and batch processors) and every program: after
    the final flush every processor has received exactly `emitCount` `OnEmit` calls — one per effective emit, none for
    null / already emitted records or the disabled logger —, its exporter has been given exactly that many records in
    total, and nothing is left queued. -/
theorem each_processor_once (c : Cfg) (ops : List Op) :
    ∀ p ∈ (run c ops).procs,
      p.onEmit = emitCount (init c) ops ∧ p.exports.flatten.length = emitCount (init c) ops ∧ p.queue = [] := by
  have hacc := accounted_exec _ ops (init c) 0 (uniform_init c)
    (List.forall_mem_map.mpr fun k _ => ⟨rfl, rfl, fun _ => rfl⟩)
  rw [run, exec_append]
  refine List.forall_mem_map.mpr fun p hp => ?_
  obtain ⟨⟨h1, h2, _⟩, hq⟩ := accounted_flush (hacc p hp) (exec (init c) ops).heap
  rw [hq] at h2
  exact ⟨by simpa using h1, by simpa using h2, hq⟩

def onlyDisabled : Op → Bool
  | .create _ e _ => !e
  | .emit _ e _ _ => !e
  | _ => true

theorem emitCount_disabled (ops : List Op) : ∀ (s : State), (∀ e ∈ s.records, e.2 = Slot.noop) →
    (∀ op ∈ ops, onlyDisabled op = true) → emitCount s ops = 0 := by
  induction ops with
  | nil => intro s _ _; rfl
  | cons op t ih =>
    intro s hs hops
    have hop := hops op List.mem_cons_self
    have heff : effective s op = false := by
      cases op with
      | emit t' e target args =>
        cases target with
        | fresh => simpa [effective, onlyDisabled] using hop
        | null => rfl
        | existing r =>
          simp only [effective]
          cases hf : findRec s.records r with
          | none => rfl
          | some sl => rw [show sl = .noop from hs _ (mem_of_findRec hf)]
      | _ => rfl
    -- no record of the enabled logger comes into the program's hands
    have hs' : ∀ x ∈ (step s op).records, x.2 = Slot.noop := by
      intro x hx
      rcases mem_records_step hx with h | ⟨t', e, rfl, h⟩ | ⟨a, ch, -, hm, -⟩
      · exact hs x h
      · rw [h, show e = false by simpa [onlyDisabled] using hop]; rfl
      · exact nomatch hs _ hm
    simp only [emitCount, heff, Bool.false_eq_true, if_false, Nat.zero_add]
    exact ih _ hs' fun o ho => hops o (List.mem_cons_of_mem _ ho)

/-- A program that only ever uses the disabled logger (creates and emits through it, sets
    anything on its records, any arguments) exports nothing: no processor is ever notified, every exporter log stays empty. -/
theorem disabled_logger_program (c : Cfg) (ops : List Op) (h : ∀ op ∈ ops, onlyDisabled op = true) :
    ∀ p ∈ (run c ops).procs, p.onEmit = 0 ∧ p.exports.flatten = [] := by
  intro p hp
  obtain ⟨h1, h2, _⟩ := each_processor_once c ops p hp
  rw [emitCount_disabled ops (init c) (by simp [init]) h] at h1 h2
  exact ⟨h1, List.eq_nil_of_length_eq_zero h2⟩

/-- SPEC: what was emitted — every stored value is the value that was given when it was set -/
def given (r : Record) : Seen :=
  { severity := r.severity, body := .ok r.body.atSet, attrs := r.attrs.map fun kv => (kv.1, .ok kv.2.atSet),
    timestamp := r.timestamp, eventId := r.eventId, eventName := r.eventName, identity := r.identity,
    resource := r.resource, scope := r.scope }

def storedOf (r : Record) : List Stored := r.body :: r.attrs.map (·.2)

/-- the caller's memory `h` still holds what every view of `r` pointed at when it was set -/
def Readable (h : Heap) (r : Record) : Prop := ∀ st ∈ storedOf r, st.read h = .ok st.atSet

/-- An exporter that reads a record while the caller's memory still holds what the
    record's views pointed at sees exactly what was emitted (body and every attribute value, all other fields anyway). -/
theorem exported_eq_emitted_partial (h : Heap) (r : Record) (hr : Readable h r) : r.see h = given r := by
  unfold Record.see given
  have hb : r.body.read h = .ok r.body.atSet := hr _ (List.mem_cons_self ..)
  have ha : (r.attrs.map fun kv => (kv.1, kv.2.read h)) = r.attrs.map fun kv => (kv.1, Read.ok kv.2.atSet) := by
    apply List.map_congr_left
    intro kv hkv
    rw [hr kv.2 (List.mem_cons_of_mem _ (List.mem_map_of_mem hkv))]
  rw [hb, ha]

def argBufs : Arg → List BufId
  | .attributes b _ => [b]
  | .body b _ => [b]
  | _ => []

/-- SPEC: the operations by which the caller writes, frees or re-uses cell `b` -/
def touches (b : BufId) : Op → Bool
  | .scribble b' => b' == b
  | .free b' => b' == b
  | .set _ a => (argBufs a).contains b
  | .emit _ _ _ args => (args.flatMap argBufs).contains b
  | _ => false

theorem get_put (h : Heap) (b b' : BufId) (c : Option (List Value)) :
    (h.put b' c).get b = if b' = b then c else h.get b := by
  simp [Heap.put, Heap.get]

theorem alloc_frame (a : Arg) (h : Heap) (b : BufId) (hb : b ∉ argBufs a) : (a.alloc h).get b = h.get b := by
  cases a with
  | attributes buf kvs => exact (get_put ..).trans (if_neg fun (e : buf = b) => hb (e ▸ List.mem_singleton_self _))
  | body buf v => exact (get_put ..).trans (if_neg fun (e : buf = b) => hb (e ▸ List.mem_singleton_self _))
  | _ => rfl

theorem foldl_alloc_frame (args : List Arg) : ∀ (h : Heap) (b : BufId), b ∉ args.flatMap argBufs →
    (args.foldl Arg.alloc h).get b = h.get b := by
  induction args with
  | nil => intro h b _; rfl
  | cons a t ih =>
    intro h b hb
    simp only [List.flatMap_cons, List.mem_append, not_or] at hb
    rw [List.foldl_cons, ih _ _ hb.2, alloc_frame a h b hb.1]

theorem heap_step_frame (s : State) (op : Op) (b : BufId) (ht : touches b op = false) :
    (step s op).heap.get b = s.heap.get b := by
  cases op with
  | set r a =>
    have hb : b ∉ argBufs a := by simpa [touches] using ht
    simp only [step]
    split <;> exact alloc_frame a s.heap b hb
  | emit t e target args =>
    have hb : b ∉ args.flatMap argBufs := by simpa [touches] using ht
    rcases step_emit s t e target args with h | ⟨slot, recs, _, h⟩ <;> rw [h]
    rw [(emitSlot_frame ..).2.2.2]
    exact foldl_alloc_frame args s.heap b hb
  | scribble b' =>
    have hb : ¬ b' = b := by simpa [touches] using ht
    simp only [step]
    split
    · rfl
    · simp [get_put, hb]
  | free b' =>
    have hb : ¬ b' = b := by simpa [touches] using ht
    simp [step, get_put, hb]
  | _ => rfl

/-- If, from the emit on, the caller neither overwrites nor frees nor re-uses any cell
    the record points into, the record stays readable through any further operations (of any thread, any other records,
    any flushes) — so a deferred export then still sees what was emitted (`exported_eq_emitted_partial`). -/
theorem untouched_cells_stay_readable (r : Record) (ops : List Op) : ∀ (s : State), Readable s.heap r →
    (∀ op ∈ ops, ∀ st ∈ storedOf r, touches st.buf op = false) → Readable (exec s ops).heap r := by
  induction ops with
  | nil => intro s h _; exact h
  | cons op t ih =>
    intro s h hops
    apply ih (step s op)
    · intro st hst
      -- a view reads only its own cell
      rw [Stored.read, heap_step_frame s op st.buf (hops op List.mem_cons_self st hst)]
      exact h st hst
    · exact fun o ho => hops o (List.mem_cons_of_mem _ ho)

def Backed (h : Heap) (r : Record) : Prop :=
  ∀ st ∈ storedOf r, pointsToMemory st.atSet = true →
    ∃ cell, h.get st.buf = some cell ∧ cell[st.idx]? = some st.atSet

theorem readable_of_backed (h : Heap) (r : Record) (hb : Backed h r) : Readable h r := by
  intro st hst
  unfold Stored.read
  by_cases hp : pointsToMemory st.atSet = true
  · obtain ⟨cell, h1, h2⟩ := hb st hst hp
    simp [hp, h1, h2]
  · simp [hp]

theorem mem_setAttr {k : Bytes} {s : Stored} {m : List (Bytes × Stored)} {e : Bytes × Stored}
    (h : e ∈ setAttr k s m) : e = (k, s) ∨ e ∈ m := by
  induction m with
  | nil => exact .inl (List.mem_singleton.mp h)
  | cons x t ih =>
    obtain ⟨k', s'⟩ := x
    simp only [setAttr] at h
    split at h
    · exact (List.mem_cons.mp h).imp_right (List.mem_cons_of_mem _)
    · rcases List.mem_cons.mp h with rfl | h
      · exact .inr List.mem_cons_self
      · exact (ih h).imp_right (List.mem_cons_of_mem _)

theorem mem_foldl_setAttr {ws m : List (Bytes × Stored)} {e : Bytes × Stored}
    (h : e ∈ ws.foldl (fun m w => setAttr w.1 w.2 m) m) : e ∈ m ∨ e ∈ ws := by
  induction ws generalizing m with
  | nil => exact .inl h
  | cons w t ih =>
    rcases ih h with h | h
    · rcases mem_setAttr h with rfl | h
      · exact .inr List.mem_cons_self
      · exact .inl h
    · exact .inr (List.mem_cons_of_mem _ h)

theorem stored_set (h : Heap) (r : Record) (a : Arg) : ∀ st ∈ storedOf (r.set a), st ∈ storedOf r ∨
    st.buf ∈ argBufs a ∧ ∃ cell, (a.alloc h).get st.buf = some cell ∧ cell[st.idx]? = some st.atSet := by
  intro st hst
  cases a with
  | body buf v =>
    rcases List.mem_cons.mp hst with rfl | hst
    · exact .inr ⟨List.mem_singleton_self _, [v], by simp [Arg.alloc, get_put, Record.set], rfl⟩
    · exact .inl (List.mem_cons_of_mem _ hst)
  | attributes buf kvs =>
    rcases List.mem_cons.mp hst with rfl | hst
    · exact .inl List.mem_cons_self
    · obtain ⟨e, he, rfl⟩ := List.mem_map.mp hst
      simp only [Record.set, setAttrsFrom_eq] at he
      rcases mem_foldl_setAttr he with he | he
      · exact .inl (List.mem_cons_of_mem _ (List.mem_map_of_mem he))
      · -- pair `j` of the argument is a view of element `j` of the cell that holds the argument's values
        obtain ⟨⟨⟨k, v⟩, j⟩, hj, rfl⟩ := List.mem_map.mp he
        have := List.mem_zipIdx_iff_getElem?.mp hj
        exact .inr ⟨List.mem_singleton_self _, kvs.map (·.2), by simp [Arg.alloc, get_put],
          by simpa [List.getElem?_map] using congrArg (Option.map (·.2)) this⟩
  | _ => exact .inl hst

theorem backed_set (h : Heap) (r : Record) (a : Arg) (hb : Backed h r)
    (hd : ∀ st ∈ storedOf r, pointsToMemory st.atSet = true → st.buf ∉ argBufs a) :
    Backed (a.alloc h) (r.set a) ∧ ∀ st ∈ storedOf (r.set a), st ∈ storedOf r ∨ st.buf ∈ argBufs a := by
  refine ⟨fun st hst hp => ?_, fun st hst => (stored_set h r a st hst).imp_right (·.1)⟩
  rcases stored_set h r a st hst with h1 | ⟨_, h1⟩
  · rw [alloc_frame a h st.buf (hd st h1 hp)]
    exact hb st h1 hp
  · exact h1

theorem backed_setAll (args : List Arg) : ∀ (h : Heap) (r : Record), Backed h r → (args.flatMap argBufs).Nodup →
    (∀ st ∈ storedOf r, pointsToMemory st.atSet = true → st.buf ∉ args.flatMap argBufs) →
    Backed (args.foldl Arg.alloc h) (r.setAll args) := by
  induction args with
  | nil => intro h r hb _ _; exact hb
  | cons a rest ih =>
    intro h r hb hn hd
    simp only [List.flatMap_cons] at hn hd
    obtain ⟨_, hn2, hdis⟩ := List.nodup_append.mp hn
    have hd1 : ∀ st ∈ storedOf r, pointsToMemory st.atSet = true → st.buf ∉ argBufs a :=
      fun st hst hp hm => hd st hst hp (List.mem_append_left _ hm)
    obtain ⟨hb', hnew⟩ := backed_set h r a hb hd1
    show Backed (rest.foldl Arg.alloc (a.alloc h)) ((r.set a).setAll rest)
    apply ih _ _ hb' hn2
    intro st hst hp hm
    rcases hnew st hst with h1 | h1
    · exact hd st h1 hp (List.mem_append_right _ hm)
    · exact hdis _ h1 _ hm rfl

theorem backed_fresh (h : Heap) (s : State) (t : ThreadId) : Backed h (freshRecord s t) ∧
    ∀ st ∈ storedOf (freshRecord s t), pointsToMemory st.atSet = false := by
  -- a fresh record holds the empty string body and no attribute: no view into caller memory
  have hnp : ∀ st ∈ storedOf (freshRecord s t), pointsToMemory st.atSet = false := by
    unfold freshRecord; cases activeSpan s t <;> exact List.forall_mem_singleton.mpr rfl
  exact ⟨fun st hst hp => absurd ((hnp st hst).symm.trans hp) nofun, hnp⟩

/-- For `EmitLogRecord(args…)` in any reachable state, with the arguments in
    pairwise distinct caller cells: every processor is handed the same record `R`, the exporter of every *simple* processor
    is called inside that `Emit` with exactly `[given R]` — body and every attribute value as given, whatever the caller
    does with its buffers after `Emit` returns (later operations cannot change an exporter log entry). -/
theorem simple_processor_exports_emitted_values (c : Cfg) (pre : List Op) (t : ThreadId) (args : List Arg)
    (hn : (args.flatMap argBufs).Nodup) :
    ∃ R : Record, ∃ hp : Heap,
      (step (exec (init c) pre) (.emit t true .fresh args)).procs = (exec (init c) pre).procs.map (·.emit hp R) ∧
      R.see hp = given R ∧
      ∀ p : Proc, p.kind = .simple →
        p.emit hp R = { p with onEmit := p.onEmit + 1, exports := p.exports ++ [[given R]] } := by
  generalize hs : exec (init c) pre = s
  have hback : Backed (args.foldl Arg.alloc s.heap) ((freshRecord s t).setAll args) := by
    obtain ⟨hb, hnp⟩ := backed_fresh s.heap s t
    exact backed_setAll args s.heap _ hb hn (fun st hst hpm => by rw [hnp st hst] at hpm; cases hpm)
  have hsee : (emittedRecord s t args).see (args.foldl Arg.alloc s.heap) = given (emittedRecord s t args) :=
    exported_eq_emitted_partial _ _ (readable_of_backed _ ((freshRecord s t).setAll args) hback)
  refine ⟨_, _, procs_emit_fresh (hs ▸ fanout_identical_children c pre) t args, hsee, fun p hk => ?_⟩
  simp only [Proc.emit, hk, hsee]

/-- In every reachable state `EmitLogRecord(args…)` through the enabled logger hands exactly
    `emittedRecord` to every processor (one `OnEmit` each), and that record carries the resource and the instrumentation
    scope of the configuration — for any arguments (no hypothesis on the caller's cells). -/
theorem emit_hands_over (c : Cfg) (pre : List Op) (t : ThreadId) (args : List Arg) :
    (step (exec (init c) pre) (.emit t true .fresh args)).procs
      = (exec (init c) pre).procs.map
          (·.emit (args.foldl Arg.alloc (exec (init c) pre).heap) (emittedRecord (exec (init c) pre) t args)) ∧
    (emittedRecord (exec (init c) pre) t args).resource = some c.resource ∧
    (emittedRecord (exec (init c) pre) t args).scope = some c.scope := by
  have hcfg : (exec (init c) pre).cfg = c :=
    exec_invariant (·.cfg = c) (fun _ op h => (cfg_step _ op).trans h) pre (init c) rfl
  exact ⟨procs_emit_fresh (fanout_identical_children c pre) t args, by simp [emittedRecord, hcfg],
    by simp [emittedRecord, hcfg]⟩

theorem exports_prefix_emit (p : Proc) (hp : Heap) (r : Record) : p.exports <+: (p.emit hp r).exports := by
  unfold Proc.emit
  cases p.kind
  · exact List.prefix_append _ _
  · exact List.prefix_refl _

theorem exports_prefix_flush (p : Proc) (hp : Heap) : p.exports <+: (p.flush hp).exports := by
  unfold Proc.flush
  split
  · exact List.prefix_append _ _
  · exact List.prefix_refl _

theorem exports_prefix_step {n : Nat} {s : State} (hu : Uniform n s) (op : Op) {i : Nat} {q : Proc}
    (h : s.procs[i]? = some q) : ∃ q', (step s op).procs[i]? = some q' ∧ q.exports <+: q'.exports := by
  rcases procs_step hu op with ⟨_, hp⟩ | ⟨_, r, hp', hp⟩ | ⟨_, hp⟩ <;> rw [hp]
  · exact ⟨q, h, List.prefix_refl _⟩
  · exact ⟨_, by rw [List.getElem?_map, h]; rfl, exports_prefix_emit q hp' r⟩
  · exact ⟨_, by rw [List.getElem?_map, h]; rfl, exports_prefix_flush q _⟩

/-- Through any further operations — of any thread, on any record, any caller-memory
    operation, any flush — what an exporter has already been given stays exactly as it was (a prefix of its later log):
    in particular what a simple processor exported inside `Emit` cannot be affected by what the caller does afterwards. -/
theorem exporter_logs_only_grow (c : Cfg) (pre post : List Op) (i : Nat) (p p' : Proc)
    (h : (exec (init c) pre).procs[i]? = some p) (h' : (exec (init c) (pre ++ post)).procs[i]? = some p') :
    p.exports <+: p'.exports := by
  obtain ⟨_, q, hq, hpq⟩ := exec_invariant
    (fun s => Uniform c.procs.length s ∧ ∃ q, s.procs[i]? = some q ∧ p.exports <+: q.exports)
    (fun s op ⟨hu, q, hq, hpq⟩ =>
      have ⟨q', hq', h'⟩ := exports_prefix_step hu op hq
      ⟨uniform_step hu op, q', hq', hpq.trans h'⟩)
    post _ ⟨fanout_identical_children c pre, p, h, List.prefix_refl _⟩
  rw [exec_append, hq] at h'
  exact Option.some.inj h' ▸ hpq
def bodyArgs : Op → List Value
  | .set _ (.body _ v) => [v]
  | .emit _ _ _ args => args.filterMap fun a => match a with
    | .body _ v => some v
    | _ => none
  | _ => []

/-- every body an exporter saw is one the program actually supplied (or the default empty body), and none is a read of
    freed memory -/
def bodyOk (ops : List Op) (seen : Seen) : Bool :=
  match seen.body with
  | .ok v => (Value.str [] :: ops.flatMap bodyArgs).contains v
  | .uaf => false

/-- the body part of the full statement "the exported record holds the values given at emit time, whatever the caller does
    with its buffers afterwards" -/
def BodyAsGiven (c : Cfg) (ops : List Op) : Prop :=
  ∀ p ∈ (run c ops).procs, ∀ b ∈ p.exports, ∀ seen ∈ b, bodyOk ops seen = true

def helloOriginal : Bytes := [104, 101, 108, 108, 111, 45, 111, 114, 105, 103, 105, 110, 97, 108]

def witnessCfg (k : ProcKind) : Cfg := { procs := [k], resource := [], scope := ⟨[108], [], []⟩ }

/-- emit a string body, then the caller overwrites its buffer (before the final flush) -/
def witnessScribble : List Op := [.emit 0 true .fresh [.body 1 (.str helloOriginal)], .scribble 1]
/-- … or frees it -/
def witnessFree : List Op := [.emit 0 true .fresh [.body 1 (.str helloOriginal)], .free 1]

instance (c : Cfg) (ops : List Op) : Decidable (BodyAsGiven c ops) := by unfold BodyAsGiven; infer_instance

/-- D14: the full statement is false of the code as it is: with a batch processor the
    exporter sees `XXXXXXXXXXXXXX` for the body that was emitted as `hello-original`. -/
theorem exported_eq_emitted_witness :
    ¬ BodyAsGiven (witnessCfg .batch) witnessScribble ∧
    (run (witnessCfg .batch) witnessScribble).procs.map (fun p => p.exports.map (·.map (·.body)))
      = [[[Read.ok (.str (List.replicate 14 0x58))]]] := by
  constructor <;> decide

/-- … and when the caller frees the buffer, the deferred export reads freed memory -/
theorem exported_eq_emitted_uaf_witness :
    ¬ BodyAsGiven (witnessCfg .batch) witnessFree ∧
    (run (witnessCfg .batch) witnessFree).procs.map (fun p => p.exports.map (·.map (·.body))) = [[[Read.uaf]]] := by
  constructor <;> decide

/-- the same two programs are fine with the simple processor, which exports inside `Emit` -/
example : BodyAsGiven (witnessCfg .simple) witnessScribble ∧ BodyAsGiven (witnessCfg .simple) witnessFree := by
  constructor <;> decide

/-- The behaviour after fix D64; the unfixed code ran `strlen` on a null pointer: an `EventId`
    constructed without a name sets the id and an empty name. -/
theorem eventid_without_name (r : Record) (id : Int) :
    (r.set (.eventId id none)).eventId = id ∧ (r.set (.eventId id none)).eventName = [] := ⟨rfl, rfl⟩

theorem cString_of_no_nul (name : Bytes) (h : (0 : UInt8) ∉ name) : cString name = name := by
  unfold cString
  induction name with
  | nil => rfl
  | cons c t ih =>
    simp only [List.mem_cons, not_or] at h
    have hc : c ≠ 0 := fun e => h.1 e.symm
    simpa [List.takeWhile_cons, hc] using ih h.2

/-- The event id is the supplied one, and the event name is the supplied one *provided it
    contains no NUL byte*: the `EventId` wrapper stores the name as a C string. -/
theorem eventid_name_partial (r : Record) (id : Int) (name : Bytes) (h : (0 : UInt8) ∉ name) :
    (r.set (.eventId id (some name))).eventId = id ∧ (r.set (.eventId id (some name))).eventName = name :=
  ⟨rfl, by simp [Record.set, cString_of_no_nul name h]⟩

/-- Without that hypothesis the statement is false: `a\0b` arrives as `a`. -/
theorem eventid_name_witness :
    ((({} : Record).set (.eventId 1 (some [97, 0, 98]))).eventName = [97]) ∧
    ¬ (∀ (name : Bytes), (({} : Record).set (.eventId 1 (some name))).eventName = name) := by
  refine ⟨by decide, fun h => ?_⟩
  have := h [97, 0, 98]
  revert this
  decide

def exSpan : Identity := ⟨List.replicate 16 1, List.replicate 8 2, 1⟩
def exCfg : Cfg := { procs := [.simple, .batch], resource := [114], scope := ⟨[108], [], []⟩ }
def exOps : List Op :=
  [.push 0 exSpan, .push 1 ⟨List.replicate 16 7, List.replicate 8 8, 0⟩, .create 0 true 5, .pop 0,
   .set 5 (.attributes 1 [([107], .i32 1), ([107], .str [97])]), .emit 2 true (.existing 5) [.severity 9, .body 2 (.strs [[97], []])],
   .emit 0 true (.existing 5) [.severity 1], .emit 1 false .fresh [.severity 3], .emit 0 true .null [], .scribble 1, .free 2]

example : activeSpan (exec (init exCfg) (exOps.take 2)) 0 = some exSpan := by decide
example : activeSpan (exec (init exCfg) exOps) 0 = none ∧ (activeSpan (exec (init exCfg) exOps) 1).isSome := by decide
example : emitCount (init exCfg) exOps = 1 := by decide
example : (run exCfg exOps).procs.map (·.onEmit) = [1, 1] := by decide
/-- the record was created on thread 0 while `exSpan` was active there: both copies carry its identity although it is
    emitted from thread 2 after the span was released -/
example : (run exCfg exOps).procs.map (fun p => p.exports.flatten.map (·.identity)) = [[exSpan], [exSpan]] := by decide
/-- the simple copy holds the emitted values, the batch copy what the caller's memory held at the flush -/
example : (run exCfg exOps).procs.map (fun p => p.exports.flatten.map (·.body))
    = [[.ok (.strs [[97], []])], [.uaf]] := by decide
example : (([.body 1 (.str [1]), .attributes 2 [([1], .bool true)]] : List Arg).flatMap argBufs).Nodup := by decide
example : (0 : UInt8) ∉ ([97, 98] : Bytes) := by decide
example : onlyDisabled (.emit 0 false .fresh [.severity 1]) = true ∧ onlyDisabled (.create 0 false 1) = true := by decide

end Otel.C13
