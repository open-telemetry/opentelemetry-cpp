import OtelVerif.Props.C19Race
import OtelVerif.Gen.MeterRegLock
/-! # C06, "several handles of one instrument" when the handles are obtained concurrently

`Meter::RegisterSyncMetricStorage` / `RegisterAsyncMetricStorage` keep one storage per (instrument, view) in
`storage_registry_`, a get-or-create table under `storage_lock_`: the same protocol as the providers' scope lists, whose
model is `Model/GetScopeLock.lean` (key = the registry key of the instrument and view, object = the storage).  Its theorems,
for EVERY interleaving of any number of threads obtaining handles, are what `every_handle_counts_cumulative` / `every_handle_counts_delta` (Props/C06.lean: every
handle of an instrument records into the instrument's one stream) need when the handles are created at the same time: two requests
for one key get the same storage, and a storage that was handed out is never replaced in the table.  What the protocol
assumes of the source text is re-extracted on every run (`gen_meter_registry_lock_facts`); real executions of the unmodified
`meter.cc` under the deterministic scheduler are checked against the schedule-independent prediction (one stream per
instrument holding everything recorded through all handles, `harness/d_meterreg.cc`). -/
namespace Otel.C06Race
open Otel Otel.GetScopeLock

/-- **handles for one instrument obtained by any threads, in any interleaving, share one storage** -/
theorem handles_share_one_storage {as : List Act} {s : St} (h : run init as = some s) (r1 r2 : Ret)
    (h1 : r1 ∈ s.rets) (h2 : r2 ∈ s.rets) (hk : r1.key = r2.key) : r1.ent = r2.ent :=
  C19Race.same_key_same_object h r1 r2 h1 h2 hk

/-- **a storage that was handed out stays the registered one**: the table never holds two storages for one key and never
    loses an entry, so later handles and every collection see the storage the first handle records into -/
theorem handed_out_storage_stays_registered {as : List Act} {s : St} (h : run init as = some s) (r : Ret) (hr : r ∈ s.rets) :
    r.ent ∈ s.list ∧ r.ent.key = r.key ∧ (s.list.map (·.key)).Nodup :=
  ⟨(C19Race.returned_in_list_with_requested_key h r hr).1, (C19Race.returned_in_list_with_requested_key h r hr).2,
   C19Race.list_keys_nodup h⟩

/-- what the protocol assumes of `meter.cc` (re-extracted into `Gen/MeterRegLock.lean` on every run): both registration
    functions declare one lock guard on `storage_lock_` at their top brace level before the first use of
    `storage_registry_`, it is the only one, and nothing releases it before the return -/
theorem gen_meter_registry_lock_facts : Gen.meterRegGuardBeforeFirstUse = true ∧ Gen.meterRegOneGuardHeldToReturn = true := by decide

end Otel.C06Race
