import OtelVerif.Lemmas.ObsRegLock
import OtelVerif.Gen.ObsRegLock
/-! # C17, concurrency reading — callbacks added / removed while a collection runs

"At each collection … every callback registered on an observable instrument is invoked exactly once and a removed callback
(or one whose instrument was destroyed) is never invoked again": theorems about `Model/ObsRegLock.lean`, for EVERY
interleaving of the lock / append / erase / loop-test / callback / unlock steps of any number of threads calling
`AddCallback`, `RemoveCallback`, `CleanupCallback` (`~ObservableInstrument`) and `Observe` on one registry (no bound on the
number of threads, calls or steps): one inductive invariant (`Otel.ObsRegLock.Inv`, `reachable_inv`) and from it

* the critical sections never overlap (`mutual_exclusion`); while an `Observe` runs the vector does not change
  (`observe_sees_stable_list`);
* an `Observe` invokes exactly the registered callbacks, in registration order, each as often as it is registered — exactly
  once when registered once (`observe_invokes_exactly_the_registered`, `observe_invokes_each_once`); a callback runs only
  while it is registered (`callback_runs_registered`, `begun_only_registered`);
* when `RemoveCallback` / `CleanupCallback` returns, the registration(s) are gone and NO callback is running
  (`remove_returns_unregistered_and_quiet`, `cleanup_returns_unregistered_and_quiet`), and from then on the callback is
  never begun again in any execution that does not `push_back` it again (`never_invoked_after_remove_returned`,
  `never_invoked_after_instrument_destroyed`, on top of `unregistered_until_readded`).

The step structure the model assumes is re-extracted from `observable_registry.cc` on every run
(`gen_obsreg_lock_facts`); real executions of the unmodified file under the deterministic scheduler are replayed on the
model (`Model/ObsRegLock.lean` `astep`, `replay_sound`). -/
namespace Otel.C17Race
open Otel Otel.ObsRegLock

/-- does a thread at this program counter hold `callbacks_m_`? -/
def holds : Pc → Bool
  | .aPush _ => true
  | .aUnlock _ => true
  | .rErase _ => true
  | .rUnlock _ => true
  | .cErase _ => true
  | .cUnlock _ => true
  | .oLoop _ _ _ => true
  | .oCb _ _ _ _ => true
  | .oUnlock _ _ => true
  | _ => false

theorem holds_lock {s : St} (hI : Inv s) (t : Nat) (ht : holds (s.pc t) = true) : s.lock = some t := by
  have h := hI t
  unfold TInv at h
  generalize s.pc t = p at h ht
  cases p <;> first | exact h | exact h.1 | cases ht

/-- a thread inside a callback holds the lock of an `Observe` whose vector holds that callback -/
theorem cb_registered {s : St} (hI : Inv s) {t k : Nat} {snap inv : List Reg} {r : Reg} (hp : s.pc t = .oCb k snap inv r) :
    r ∈ s.cbs := by
  have ht := (TInv_at hp).mp (hI t)
  rw [ht.2.1]
  exact List.mem_of_getElem? ht.2.2.1

section reachable
variable {regs : List Reg} {as : List Act} {s : St} (h : run (init regs) as = some s)
include h

/-- **mutual exclusion** of `AddCallback` / `RemoveCallback` / `CleanupCallback` / the whole of `Observe` -/
theorem mutual_exclusion (t t' : Nat) (ht : holds (s.pc t) = true) (ht' : holds (s.pc t') = true) : t = t' :=
  Lock.holder_unique (holds_lock (reachable_inv regs as s h) t ht) (holds_lock (reachable_inv regs as s h) t' ht')

/-- **while an `Observe` runs, `callbacks_` is what it was when the `Observe` took the lock**, and the callbacks begun so
    far are its first `k` records -/
theorem observe_sees_stable_list (t k : Nat) (snap inv : List Reg) :
    (s.pc t = .oLoop k snap inv → s.cbs = snap ∧ inv = snap.take k) ∧
    (∀ r, s.pc t = .oCb k snap inv r → s.cbs = snap ∧ snap[k]? = some r ∧ inv = snap.take (k + 1)) := by
  have ht := reachable_inv regs as s h t
  exact ⟨fun hp => ((TInv_at hp).mp ht).2, fun _ hp => ((TInv_at hp).mp ht).2⟩

/-- **each collection invokes exactly the registered callbacks**: when an `Observe` is about to return, the callbacks it
    has begun are `callbacks_` — the same list from the moment it took the lock — in order -/
theorem observe_invokes_exactly_the_registered (t : Nat) (snap inv : List Reg) (hp : s.pc t = .oUnlock snap inv) :
    inv = s.cbs ∧ snap = s.cbs := by
  have ht := (TInv_at hp).mp (reachable_inv regs as s h t)
  exact ⟨by rw [ht.2.2, ht.2.1], ht.2.1.symm⟩

/-- **exactly once**: every registration is invoked as often as it is registered; exactly once when it is registered once,
    never when it is not registered -/
theorem observe_invokes_each_once (t : Nat) (snap inv : List Reg) (hp : s.pc t = .oUnlock snap inv) (r : Reg) :
    inv.count r = s.cbs.count r ∧ (s.cbs.count r = 1 → inv.count r = 1) ∧ (r ∉ s.cbs → r ∉ inv) := by
  -- by `observe_invokes_exactly_the_registered` the begun callbacks are the vector: each part compares a list with itself
  have hinv : inv = s.cbs := (observe_invokes_exactly_the_registered h t snap inv hp).1
  rw [hinv]
  exact ⟨rfl, id, id⟩

/-- **a callback runs only while it is registered** -/
theorem callback_runs_registered (t k : Nat) (snap inv : List Reg) (r : Reg) (hp : s.pc t = .oCb k snap inv r) : r ∈ s.cbs :=
  cb_registered (reachable_inv regs as s h) hp

/-- when `AddCallback` is about to return the registration is in the vector -/
theorem add_returns_registered (t : Nat) (r : Reg) (hp : s.pc t = .aUnlock r) : r ∈ s.cbs :=
  ((TInv_at hp).mp (reachable_inv regs as s h t)).2

/-- no callback is running while another thread holds the mutex -/
theorem quiet_while_locked (t : Nat) (ht : holds (s.pc t) = true) (t' k : Nat) (snap inv : List Reg) (r' : Reg)
    (hne : t' ≠ t) : s.pc t' ≠ .oCb k snap inv r' := by
  intro hp
  exact hne (mutual_exclusion h t' t (by rw [hp]; rfl) ht)

/-- **when `RemoveCallback(r)` returns, `r` is not registered and no callback is running** (so the caller may free the
    callback's state) -/
theorem remove_returns_unregistered_and_quiet (t : Nat) (r : Reg) (hp : s.pc t = .rUnlock r) :
    r ∉ s.cbs ∧ ∀ t' k snap inv r', s.pc t' ≠ .oCb k snap inv r' := by
  have ht := (TInv_at hp).mp (reachable_inv regs as s h t)
  refine ⟨ht.2, fun t' k snap inv r' hp' => ?_⟩
  rw [mutual_exclusion h t' t (by rw [hp']; rfl) (by rw [hp]; rfl), hp] at hp'
  cases hp'

/-- **when `CleanupCallback(i)` (the instrument's destructor) returns, no callback of instrument `i` is registered and
    no callback is running** -/
theorem cleanup_returns_unregistered_and_quiet (t i : Nat) (hp : s.pc t = .cUnlock i) :
    (∀ r, r ∈ s.cbs → r.inst ≠ i) ∧ ∀ t' k snap inv r', s.pc t' ≠ .oCb k snap inv r' := by
  have ht := (TInv_at hp).mp (reachable_inv regs as s h t)
  refine ⟨ht.2, fun t' k snap inv r' hp' => ?_⟩
  rw [mutual_exclusion h t' t (by rw [hp']; rfl) (by rw [hp]; rfl), hp] at hp'
  cases hp'

end reachable

/-- the only step that can put `r` into the vector is a `push_back` of `r` -/
theorem unregistered_step (r : Reg) (s s' : St) (a : Act) (hr : r ∉ s.cbs) (hp : isPush s r a = false) (ha : act s a = some s') :
    r ∉ s'.cbs := by
  cases a with
  | call t op => rw [(call_effect ha).1]; exact hr
  | step t =>
    rcases (step_effect ha).1 with hc | ⟨r', hpc, hc⟩ | ⟨p, hc⟩ <;> rw [hc]
    · exact hr
    · have : r' ≠ r := fun e => by simp [isPush, hpc, e] at hp
      simp only [List.mem_append, List.mem_singleton, not_or]
      exact ⟨hr, fun e => this e.symm⟩
    · exact fun hm => hr (List.mem_filter.mp hm).1

theorem runAvoid_cons (r : Reg) (s : St) (a : Act) (as : List Act) :
    runAvoid r s (a :: as) = (if isPush s r a then none else act s a).bind (runAvoid r · as) := by
  rw [runAvoid]
  split
  · rfl
  · cases act s a <;> rfl

/-- **unregistered until re-added**: in an execution without a `push_back` of `r`, `r` stays out of the vector -/
theorem unregistered_until_readded (r : Reg) : ∀ (as : List Act) (s s' : St), r ∉ s.cbs → runAvoid r s as = some s' → r ∉ s'.cbs :=
  Run.ind (fun _ => rfl) (runAvoid_cons r) fun s s' a hr ha => by
    split at ha
    · cases ha
    · exact unregistered_step r s s' a hr (Bool.eq_false_iff.mpr ‹_›) ha

/-- an execution that avoids a `push_back` is an execution -/
theorem inv_runAvoid (r : Reg) : ∀ (as : List Act) (s s' : St), Inv s → runAvoid r s as = some s' → Inv s' :=
  Run.ind (fun _ => rfl) (runAvoid_cons r) fun s s' a hI ha => by
    split at ha
    · cases ha
    · exact inv_act hI ha

/-- from a state in which `r` is not registered, in every continuation that does not `push_back` `r`, at every later moment
    `r` is not registered and no thread is inside the callback `r` -/
theorem never_again {s s' : St} {r : Reg} (hI : Inv s) (hr : r ∉ s.cbs) (bs : List Act) (hb : runAvoid r s bs = some s') :
    r ∉ s'.cbs ∧ ∀ t' k snap inv, s'.pc t' ≠ .oCb k snap inv r :=
  have hr' := unregistered_until_readded r bs s s' hr hb
  ⟨hr', fun _ _ _ _ hp' => hr' (cb_registered (inv_runAvoid r bs s s' hI hb) hp')⟩

/-- **a removed callback is never invoked again**: from the moment `RemoveCallback(r)` is about to return, in every
    continuation that does not `push_back` `r` again (no `AddCallback(r)` gets to its append), at every later moment `r`
    is not registered and no thread is inside the callback `r` — in particular none ever begins it -/
theorem never_invoked_after_remove_returned {regs : List Reg} {as : List Act} {s : St} (h : run (init regs) as = some s)
    (t : Nat) (r : Reg) (hp : s.pc t = .rUnlock r) (bs : List Act) (s' : St) (hb : runAvoid r s bs = some s') :
    r ∉ s'.cbs ∧ ∀ t' k snap inv, s'.pc t' ≠ .oCb k snap inv r :=
  never_again (reachable_inv regs as s h) (remove_returns_unregistered_and_quiet h t r hp).1 bs hb

/-- **a callback whose instrument was destroyed is never invoked again** -/
theorem never_invoked_after_instrument_destroyed {regs : List Reg} {as : List Act} {s : St} (h : run (init regs) as = some s)
    (t i : Nat) (hp : s.pc t = .cUnlock i) (r : Reg) (hi : r.inst = i) (bs : List Act) (s' : St) (hb : runAvoid r s bs = some s') :
    r ∉ s'.cbs ∧ ∀ t' k snap inv, s'.pc t' ≠ .oCb k snap inv r :=
  never_again (reachable_inv regs as s h) (fun hm => (cleanup_returns_unregistered_and_quiet h t i hp).1 r hm hi) bs hb

/-- the ghost log of begun callbacks grows only by a callback that is registered at that moment -/
theorem begun_only_registered (s s' : St) (a : Act) (ha : act s a = some s') :
    s'.begun = s.begun ∨ ∃ r, r ∈ s.cbs ∧ s'.begun = s.begun ++ [r] := by
  cases a with
  | call t op => exact .inl (call_effect ha).2
  | step t => exact (step_effect ha).2

/-- **the refinement check is sound**: a real execution whose events the replay accepts passes only through states of
    the model -/
theorem replay_sound (regs : List Reg) (es : List Ev) (s : St) (h : arun (init regs) es = some s) :
    ∀ t snap inv, s.pc t = .oUnlock snap inv → inv = s.cbs := by
  obtain ⟨as, h1⟩ := arun_run es (init regs) s h
  exact fun t snap inv hp => (observe_invokes_exactly_the_registered h1 t snap inv hp).1

/-- the facts of the source text the step structure stands on (re-extracted from `observable_registry.cc` on every run):
    every member function that touches `callbacks_` declares a lock guard on `callbacks_m_` at its top level before the
    first such use and never releases it early; `Observe` invokes callbacks only inside its loop over the live
    `callbacks_` (under that guard); `AddCallback` appends, `RemoveCallback` / `CleanupCallback` erase -/
theorem gen_obsreg_lock_facts :
    Gen.obsRegGuardBeforeFirstUse = true ∧ Gen.obsRegLockHeldToReturn = true ∧ Gen.obsRegObserveInvokesUnderLock = true ∧
    Gen.obsRegAddAppendsRemoveErases = true := by decide

/-! ## Non-vacuity -/

def r0 : Reg := ⟨0, 0⟩
def r1 : Reg := ⟨1, 1⟩

/-- a collector (thread 0) is parked inside callback `r0` while thread 1 tries to remove `r1`: the remover cannot get in;
    the collection invokes both callbacks, then the removal goes through, the next collection invokes `r0` only -/
def demo : List Act :=
  [.call 0 .observe, .step 0, .step 0, .call 1 (.remove r1), .step 0, .step 0, .step 0, .step 0, .step 0,
   .step 1, .step 1, .step 1, .call 0 .observe, .step 0, .step 0, .step 0, .step 0, .step 0]
example : (run (init [r0, r1]) demo).map (fun s => (s.begun, s.cbs, s.lock)) = some ([r0, r1, r0], [r0], none) := rfl
example : run (init [r0, r1]) [.call 0 .observe, .step 0, .step 0, .call 1 (.remove r1), .step 1] = none := by decide

/-- the hypotheses of the "never again" theorems are reachable, and a continuation without re-adding exists -/
example : ∃ as s, run (init [r0, r1]) as = some s ∧ s.pc 1 = .rUnlock r1 ∧
    (runAvoid r1 s [.step 1, .call 0 .observe, .step 0, .step 0, .step 0, .step 0, .step 0]).map (fun s' => s'.begun) = some [r0] :=
  ⟨[.call 1 (.remove r1), .step 1, .step 1], _, rfl, by decide, rfl⟩

/-- re-adding is refused by `runAvoid` (so the theorem's hypothesis is not vacuous in the other direction either) -/
example : runAvoid r1 (init [r0]) [.call 1 (.add r1), .step 1, .step 1] = none := by decide

end Otel.C17Race
