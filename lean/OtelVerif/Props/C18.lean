import OtelVerif.Model.Env
import OtelVerif.Model.Resource
import OtelVerif.Lemmas.Bytes
/-! # C18 — Resources merge with documented precedence; environment settings parse totally

Property theorems about `Model/Env.lean` (mirrors `sdk/src/common/env_variables.cc`, `disabled.cc`) and
`Model/Resource.lean` (mirrors `sdk/src/resource/resource.cc`, `resource_detector.cc`).  The default attributes, the
unit table, the boolean literals and the integer bound come from `Gen/C18.lean`, re-extracted from the source on every
run; the words and numbers of the property text (`true`/`false`, 32 bits, `ns us ms s m h`, `service.name`,
`telemetry.sdk.*`) are literals here and are tied to the generated values by `decide`d lemmas. -/
namespace Otel.C18
open Otel Otel.Env

/-! ## Specification vocabulary (written by hand from the property text and the header documentation) -/

def IsDigit (c : UInt8) : Prop := 48 ≤ c ∧ c ≤ 57
instance : DecidablePred IsDigit := fun c => by unfold IsDigit; exact inferInstance

/-- value of a decimal numeral, least significant digit first -/
def leVal : Bytes → Nat
  | [] => 0
  | d :: t => (d.toNat - 48) + 10 * leVal t

/-- value of a decimal numeral as written (most significant digit first): Σ dᵢ·10^(n-1-i) -/
def numVal (ds : Bytes) : Nat := leVal ds.reverse

/-- the word `true`, each letter in either case -/
def IsTrueWord (s : Bytes) : Prop :=
  ∃ a b c d, s = [a, b, c, d] ∧ (a = 116 ∨ a = 84) ∧ (b = 114 ∨ b = 82) ∧ (c = 117 ∨ c = 85) ∧ (d = 101 ∨ d = 69)

/-- the word `false`, each letter in either case -/
def IsFalseWord (s : Bytes) : Prop :=
  ∃ a b c d e, s = [a, b, c, d, e] ∧ (a = 102 ∨ a = 70) ∧ (b = 97 ∨ b = 65) ∧ (c = 108 ∨ c = 76) ∧ (d = 115 ∨ d = 83) ∧
    (e = 101 ∨ e = 69)

/-- **documented unsigned-integer syntax**: a non-empty string of decimal digits whose value fits 32 bits -/
def UintSyntax (s : Bytes) (v : Nat) : Prop :=
  s ≠ [] ∧ (∀ c ∈ s, IsDigit c) ∧ numVal s = v ∧ v ≤ 4294967295

/-- the documented units and their length in nanoseconds; no unit means seconds (`env_variables.cc`: "opentelemetry-cpp
    implemented seconds by default") -/
def unitTable : List (Bytes × Nat) :=
  [([110, 115], 1),                    -- ns
   ([117, 115], 1000),                 -- us
   ([109, 115], 1000000),              -- ms
   ([115], 1000000000),                -- s
   ([109], 60000000000),               -- m
   ([104], 3600000000000),             -- h
   ([], 1000000000)]

/-- **documented duration syntax**: (white space the code documents as skipped,) digits, an optional unit; the value is
    not zero ("Rejecting duration 0 as invalid") and, in nanoseconds, fits the 64-bit signed `system_clock` tick count -/
def DurationSyntax (s : Bytes) (ns : Nat) : Prop :=
  ∃ ws ds u m, s = ws ++ ds ++ u ∧ (∀ c ∈ ws, isSpace c = true) ∧ ds ≠ [] ∧ (∀ c ∈ ds, IsDigit c) ∧ (u, m) ∈ unitTable ∧
    numVal ds ≠ 0 ∧ ns = numVal ds * m ∧ ns ≤ 9223372036854775807

/-! ## Generated constants = the literals of the property text -/

theorem unit_table : Gen.envDurationUnits = unitTable := by decide
theorem bool_table : Gen.envBoolLiterals = [([116, 114, 117, 101], true), ([102, 97, 108, 115, 101], false)] := by decide
theorem uint_bits : 2 ^ Gen.envUintBits - 1 = 4294967295 ∧ Gen.envUintBase = 10 := by decide
theorem int64Max_eq : int64Max = 9223372036854775807 := by decide

theorem isDigit_iff (c : UInt8) : isDigit c = true ↔ IsDigit c := by
  simp only [isDigit, IsDigit, Bool.and_eq_true, decide_eq_true_eq]

theorem isDigit_toNat {c : UInt8} : isDigit c = true ↔ 48 ≤ c.toNat ∧ c.toNat ≤ 57 := by
  simp only [isDigit, Bool.and_eq_true, decide_eq_true_eq, UInt8.le_iff_toNat_le, UInt8.toNat_ofNat]

theorem isSpace_toNat {c : UInt8} : isSpace c = true ↔ c.toNat = 32 ∨ 9 ≤ c.toNat ∧ c.toNat ≤ 13 := by
  simp only [isSpace, Bool.or_eq_true, Bool.and_eq_true, decide_eq_true_eq, beq_iff_eq, UInt8.le_iff_toNat_le,
    ← UInt8.toNat_inj, UInt8.toNat_ofNat]

theorem digit_not_space_sign {c : UInt8} (h : isDigit c = true) : isSpace c = false ∧ c ≠ 45 ∧ c ≠ 43 := by
  have := isDigit_toNat.1 h
  refine ⟨Bool.eq_false_iff.2 fun hs => ?_, ?_, ?_⟩
  · have := isSpace_toNat.1 hs; omega
  · rintro rfl; simp only [UInt8.toNat_ofNat] at this; omega
  · rintro rfl; simp only [UInt8.toNat_ofNat] at this; omega

theorem digitVal_le {c : UInt8} (h : isDigit c = true) : digitVal c ≤ 9 := by
  have := isDigit_toNat.1 h; unfold digitVal; omega

theorem toLower_toNat (c : UInt8) : (toLower c).toNat = if 65 ≤ c.toNat ∧ c.toNat ≤ 90 then c.toNat + 32 else c.toNat := by
  unfold toLower
  simp only [Bool.and_eq_true, decide_eq_true_eq, UInt8.le_iff_toNat_le, UInt8.toNat_ofNat]
  split
  · rename_i h; rw [UInt8.toNat_add]; exact Nat.mod_eq_of_lt (by simp only [UInt8.toNat_ofNat]; omega)
  · rfl

theorem toLower_eq_iff {l u : UInt8} (hl : 97 ≤ l.toNat ∧ l.toNat ≤ 122) (hu : u.toNat + 32 = l.toNat) (c : UInt8) :
    toLower c = l ↔ c = l ∨ c = u := by
  rw [← UInt8.toNat_inj, ← UInt8.toNat_inj, ← UInt8.toNat_inj, toLower_toNat]
  split <;> omega

theorem ciEq_true_iff (s : Bytes) : ciEq s [116, 114, 117, 101] = true ↔ IsTrueWord s := by
  have T := @toLower_eq_iff 116 84 (by decide) (by decide)
  have R := @toLower_eq_iff 114 82 (by decide) (by decide)
  have U := @toLower_eq_iff 117 85 (by decide) (by decide)
  have E := @toLower_eq_iff 101 69 (by decide) (by decide)
  unfold ciEq IsTrueWord
  rw [beq_iff_eq, show List.map toLower [116, 114, 117, 101] = [116, 114, 117, 101] by decide]
  constructor
  · intro h
    obtain ⟨a, _, rfl, ha, h⟩ := List.map_eq_cons_iff.1 h
    obtain ⟨b, _, rfl, hb, h⟩ := List.map_eq_cons_iff.1 h
    obtain ⟨c, _, rfl, hc, h⟩ := List.map_eq_cons_iff.1 h
    obtain ⟨d, _, rfl, hd, h⟩ := List.map_eq_cons_iff.1 h
    obtain rfl := List.map_eq_nil_iff.1 h
    exact ⟨a, b, c, d, rfl, (T a).1 ha, (R b).1 hb, (U c).1 hc, (E d).1 hd⟩
  · rintro ⟨a, b, c, d, rfl, ha, hb, hc, hd⟩
    simp only [List.map_cons, List.map_nil, (T a).2 ha, (R b).2 hb, (U c).2 hc, (E d).2 hd]

theorem ciEq_false_iff (s : Bytes) : ciEq s [102, 97, 108, 115, 101] = true ↔ IsFalseWord s := by
  have F := @toLower_eq_iff 102 70 (by decide) (by decide)
  have A := @toLower_eq_iff 97 65 (by decide) (by decide)
  have L := @toLower_eq_iff 108 76 (by decide) (by decide)
  have S := @toLower_eq_iff 115 83 (by decide) (by decide)
  have E := @toLower_eq_iff 101 69 (by decide) (by decide)
  unfold ciEq IsFalseWord
  rw [beq_iff_eq, show List.map toLower [102, 97, 108, 115, 101] = [102, 97, 108, 115, 101] by decide]
  constructor
  · intro h
    obtain ⟨a, _, rfl, ha, h⟩ := List.map_eq_cons_iff.1 h
    obtain ⟨b, _, rfl, hb, h⟩ := List.map_eq_cons_iff.1 h
    obtain ⟨c, _, rfl, hc, h⟩ := List.map_eq_cons_iff.1 h
    obtain ⟨d, _, rfl, hd, h⟩ := List.map_eq_cons_iff.1 h
    obtain ⟨e, _, rfl, he, h⟩ := List.map_eq_cons_iff.1 h
    obtain rfl := List.map_eq_nil_iff.1 h
    exact ⟨a, b, c, d, e, rfl, (F a).1 ha, (A b).1 hb, (L c).1 hc, (S d).1 hd, (E e).1 he⟩
  · rintro ⟨a, b, c, d, e, rfl, ha, hb, hc, hd, he⟩
    simp only [List.map_cons, List.map_nil, (F a).2 ha, (A b).2 hb, (L c).2 hc, (S d).2 hd, (E e).2 he]

theorem true_not_false (s : Bytes) : IsTrueWord s → ¬ IsFalseWord s := by
  rintro ⟨a, b, c, d, rfl, _⟩ ⟨a', b', c', d', e', h, _⟩
  cases h

/-- the reader on a set value: it succeeds unless the value is empty, and the out-parameter is `true` exactly for the
    word `true` (the word `false` and every unknown value both leave `false`) -/
theorem getBool_some (s : Bytes) : getBool (some s) = ⟨!s.isEmpty, ciEq s [116, 114, 117, 101]⟩ := by
  unfold getBool
  rw [bool_table]
  cases s with
  | nil => rfl
  | cons c t =>
    simp only [List.isEmpty_cons, Bool.false_eq_true, if_false, boolLookup, Bool.not_false]
    cases ciEq (c :: t) [116, 114, 117, 101]
    · cases ciEq (c :: t) [102, 97, 108, 115, 101] <;> rfl
    · rfl

theorem parseBool_value_iff_true (env : Option Bytes) : (getBool env).value = true ↔ ∃ s, env = some s ∧ IsTrueWord s := by
  cases env with
  | none => exact ⟨(nomatch ·), fun ⟨_, h, _⟩ => nomatch h⟩
  | some s =>
    rw [getBool_some]
    exact (ciEq_true_iff s).trans ⟨fun h => ⟨s, rfl, h⟩, fun ⟨_, e, h⟩ => Option.some.inj e ▸ h⟩

/-- **booleans, case-insensitively**: `true` in any spelling gives exactly `true`, `false` in any spelling gives exactly
    `false`, every other value (and an unset or empty variable) gives the default `false` -/
theorem parseBool_iff (env : Option Bytes) :
    (∀ s, env = some s → IsTrueWord s → getBool env = ⟨true, true⟩) ∧
    (∀ s, env = some s → IsFalseWord s → getBool env = ⟨true, false⟩) ∧
    ((¬ ∃ s, env = some s ∧ IsTrueWord s) → (getBool env).value = false) := by
  refine ⟨?_, ?_, fun h => Bool.eq_false_iff.2 (mt (parseBool_value_iff_true env).1 h)⟩
  · rintro s rfl ht
    rw [getBool_some, (ciEq_true_iff s).2 ht]
    obtain ⟨a, b, c, d, rfl, _⟩ := ht; rfl
  · rintro s rfl hf
    rw [getBool_some, Bool.eq_false_iff.2 fun h => true_not_false s ((ciEq_true_iff s).1 h) hf]
    obtain ⟨a, b, c, d, e, rfl, _⟩ := hf; rfl

example : IsTrueWord [84, 114, 85, 101] := ⟨84, 114, 85, 101, rfl, by decide, by decide, by decide, by decide⟩   -- "TrUe"

/-- `OTEL_SDK_DISABLED` disables exactly for the word `true` -/
theorem sdkDisabled_iff (env : Option Bytes) : sdkDisabled env = true ↔ ∃ s, env = some s ∧ IsTrueWord s := by
  rw [← parseBool_value_iff_true]
  unfold sdkDisabled
  cases env with
  | none => exact Iff.rfl
  | some s => rw [getBool_some]; cases s <;> exact Iff.rfl

/-- a disabled SDK leaves the global provider as it was, otherwise the given provider is installed -/
theorem setProvider_spec {α} (env : Option Bytes) (current new : α) :
    ((∃ s, env = some s ∧ IsTrueWord s) → setProvider env current new = current) ∧
    ((¬ ∃ s, env = some s ∧ IsTrueWord s) → setProvider env current new = new) := by
  unfold setProvider
  rw [← sdkDisabled_iff]
  cases sdkDisabled env
  · exact ⟨(nomatch ·), fun _ => rfl⟩
  · exact ⟨fun _ => rfl, fun h => absurd rfl h⟩

/-- the model's left-to-right accumulation is the numeral's value; `digitVal` and `leVal` read a byte the same way, so
    this holds for every byte string -/
theorem decFrom_eq (acc : Nat) (ds : Bytes) : decFrom acc ds = acc * 10 ^ ds.length + numVal ds := by
  unfold decFrom numVal
  rw [List.foldl_eq_foldr_reverse, ← List.length_reverse]
  generalize ds.reverse = l
  induction l with
  | nil => simp only [List.foldr_nil, List.length_nil, Nat.pow_zero, Nat.mul_one, leVal, Nat.add_zero]
  | cons d t ih =>
    rw [List.foldr_cons, ih, List.length_cons, Nat.pow_succ, ← Nat.mul_assoc, leVal, digitVal]
    omega

theorem decVal_eq (ds : Bytes) : decVal ds = numVal ds := by
  unfold decVal; rw [decFrom_eq, Nat.zero_mul, Nat.zero_add]

theorem decFrom_cons (acc : Nat) (c : UInt8) (t : Bytes) : decFrom acc (c :: t) = decFrom (acc * 10 + digitVal c) t := by
  simp only [decFrom, List.foldl_cons]

theorem le_decFrom (acc : Nat) (ds : Bytes) : acc ≤ decFrom acc ds := by
  rw [decFrom_eq]
  exact Nat.le_trans (Nat.le_mul_of_pos_right _ (Nat.pow_pos (by decide))) (Nat.le_add_right _ _)

theorem span_append {p : UInt8 → Bool} {a b : Bytes} (ha : ∀ c ∈ a, p c = true) (hb : ∀ c, b.head? = some c → p c = false) :
    (a ++ b).takeWhile p = a ∧ (a ++ b).dropWhile p = b := by
  rw [List.takeWhile_append_of_pos ha, List.dropWhile_append_of_pos ha]
  cases b with
  | nil => exact ⟨List.append_nil a, rfl⟩
  | cons c t =>
    have hc : ¬ p c = true := by simp [hb c rfl]
    rw [List.takeWhile_cons_of_neg hc, List.dropWhile_cons_of_neg hc]
    exact ⟨List.append_nil a, rfl⟩

theorem takeWhile_eq_self {p : UInt8 → Bool} {l : Bytes} : l.takeWhile p = l ↔ ∀ c ∈ l, p c = true :=
  ⟨fun h => h ▸ List.all_eq_true.1 List.all_takeWhile, fun h => by
    have := (span_append (b := []) h (fun _ h => nomatch h)).1; rwa [List.append_nil] at this⟩

theorem strtoull_digit_head (c : UInt8) (t : Bytes) (hc : isDigit c = true) :
    strtoull (c :: t) =
      if 2 ^ 64 ≤ decVal ((c :: t).takeWhile isDigit) then ⟨2 ^ 64 - 1, ((c :: t).takeWhile isDigit).length, true⟩
      else ⟨decVal ((c :: t).takeWhile isDigit), ((c :: t).takeWhile isDigit).length, false⟩ := by
  obtain ⟨hs, h45, h43⟩ := digit_not_space_sign hc
  have h1 : (some c == some (45 : UInt8)) = false := by simpa using h45
  have h2 : (some c == some (43 : UInt8)) = false := by simpa using h43
  unfold strtoull
  simp only [List.dropWhile_cons, hs, List.head?_cons, Nat.sub_self, h1, h2, Bool.or_self, Bool.false_eq_true, if_false,
    List.takeWhile_cons_of_pos hc, List.isEmpty_cons, Nat.zero_add]

/-- `GetUintEnvironmentVariable` on a non-empty value, given what `strtoull` returned for it -/
theorem getUint_cons (e : Bool) (c : UInt8) (t : Bytes) {v n : Nat} {er : Bool} (h : strtoull (c :: t) = ⟨v, n, er⟩) :
    getUint e (some (c :: t)) =
      if er || !(n == t.length + 1 && isDigit c) || decide (4294967295 < v) then ⟨false, 0⟩ else ⟨true, v⟩ := by
  simp only [getUint, getUintWith, h, uint_bits.1]
  cases er <;> rfl

theorem getUint_some (e : Bool) (s : Bytes) : getUint e (some s) =
    if s ≠ [] ∧ (∀ c ∈ s, isDigit c = true) ∧ decVal s ≤ 4294967295 then ⟨true, decVal s⟩ else ⟨false, 0⟩ := by
  cases s with
  | nil => rfl
  | cons c t =>
    by_cases hc : isDigit c = true
    · have hr := strtoull_digit_head c t hc
      by_cases hall : ∀ x ∈ c :: t, isDigit x = true
      · -- a numeral: `strtoull` converts all of it
        rw [takeWhile_eq_self.2 hall] at hr
        by_cases h32 : decVal (c :: t) ≤ 4294967295
        · rw [if_neg (by omega)] at hr
          rw [if_pos ⟨List.cons_ne_nil _ _, hall, h32⟩, getUint_cons e c t hr]
          simp [hc, Nat.not_lt.2 h32]
        · -- too large: `strtoull` either saturates with `ERANGE` or returns a value above 2^32-1; both are rejected
          rw [if_neg fun h => h32 h.2.2]
          split at hr <;> rw [getUint_cons e c t hr] <;> simp [Nat.not_le.1 h32]
      · -- the conversion stops before the end: whatever value `strtoull` returns, its end offset is not the length
        have hlen : ((c :: t).takeWhile isDigit).length ≠ t.length + 1 := fun h =>
          hall (takeWhile_eq_self.1 ((List.takeWhile_prefix _).eq_of_length h))
        rw [if_neg fun h => hall h.2.1]
        split at hr <;> rw [getUint_cons e c t hr] <;> simp [hlen]
    · rw [if_neg fun h => hc (h.2.1 c List.mem_cons_self)]
      simp [getUint, getUintWith, hc]

/-- **unsigned integers within 32 bits**: the reader returns `true` with value `v` exactly for the decimal numerals of
    `v ≤ 4294967295`, whatever `errno` held on entry -/
theorem parseUint32_iff_documented (errnoIn : Bool) (s : Bytes) (v : Nat) :
    getUint errnoIn (some s) = ⟨true, v⟩ ↔ UintSyntax s v := by
  rw [getUint_some]
  unfold UintSyntax
  simp only [← isDigit_iff, ← decVal_eq]
  constructor
  · intro h
    split at h
    · rename_i hs; obtain rfl : decVal s = v := by simpa using h
      exact ⟨hs.1, hs.2.1, rfl, hs.2.2⟩
    · cases h
  · rintro ⟨h0, hall, rfl, hle⟩
    rw [if_pos ⟨h0, hall, hle⟩]

example : UintSyntax [52, 50] 42 := ⟨by simp, by decide, by decide, by decide⟩

/-- every other string (and an unset or empty variable) gives the documented default: `false`, value 0 — never a partial value -/
theorem parseUint32_default_otherwise (errnoIn : Bool) (env : Option Bytes)
    (h : ¬ ∃ s v, env = some s ∧ UintSyntax s v) : getUint errnoIn env = ⟨false, 0⟩ := by
  cases env with
  | none => rfl
  | some s =>
    rw [getUint_some]
    split
    · rename_i hs
      exact absurd ⟨s, _, rfl, (parseUint32_iff_documented errnoIn s _).1 (by rw [getUint_some, if_pos hs])⟩ h
    · rfl

/-- the incoming `errno` has no influence (D15: before the fix a stale `ERANGE` made every value invalid) -/
theorem parseUint32_errno_irrelevant (env : Option Bytes) : getUint true env = getUint false env := rfl

/-! The reader before the D15 fix (`getUintAsWas`), on the witnesses replayed against the implementation -/
-- " 5"
theorem parseUint32_aswas_witness_space : getUintAsWas false (some [32, 53]) = ⟨true, 5⟩ ∧ ¬ UintSyntax [32, 53] 5 := by
  refine ⟨by decide +kernel, fun h => ?_⟩
  exact absurd (h.2.1 32 (by simp)) (by decide)
-- "+5"
theorem parseUint32_aswas_witness_plus : getUintAsWas false (some [43, 53]) = ⟨true, 5⟩ ∧ ¬ UintSyntax [43, 53] 5 := by
  refine ⟨by decide +kernel, fun h => ?_⟩
  exact absurd (h.2.1 43 (by simp)) (by decide)
-- "-18446744073709551615" is read as 1
theorem parseUint32_aswas_witness_wrap :
    getUintAsWas false (some [45, 49, 56, 52, 52, 54, 55, 52, 52, 48, 55, 51, 55, 48, 57, 53, 53, 49, 54, 49, 53]) = ⟨true, 1⟩ := by
  decide +kernel
-- "42" under a stale ERANGE is rejected although it is a documented numeral
theorem parseUint32_aswas_witness_stale_errno : getUintAsWas true (some [52, 50]) = ⟨false, 0⟩ ∧ UintSyntax [52, 50] 42 :=
  ⟨by decide +kernel, by simp, by decide, by decide, by decide⟩

theorem unitLookup_iff (tab : List (Bytes × Nat)) (hnd : (tab.map (·.1)).Nodup) (u : Bytes) (m : Nat) :
    unitLookup tab u = some m ↔ (u, m) ∈ tab := by
  induction tab with
  | nil => simp [unitLookup]
  | cons p rest ih =>
    obtain ⟨u', m'⟩ := p
    rw [List.map_cons, List.nodup_cons] at hnd
    rw [unitLookup, List.mem_cons, Prod.mk.injEq]
    by_cases hu : u = u'
    · subst hu
      have : (u, m) ∉ rest := fun h => hnd.1 (List.mem_map.2 ⟨_, h, rfl⟩)
      simp [this, eq_comm]
    · simp [hu, ih hnd.2]

theorem unitTable_nodup : (unitTable.map (·.1)).Nodup := by decide
theorem unitTable_pos : ∀ p ∈ unitTable, 0 < p.2 := by decide
/-- no unit starts with a digit: the digit loop ends exactly where the unit begins -/
theorem unitTable_head : ∀ p ∈ unitTable, ∀ c, p.1.head? = some c → isDigit c = false := by decide

/-- the digit loop with the overflow guard: it consumes the longest digit prefix and yields its value if that fits
    `int64_t`, else rejects; the signed-overflow token is never reached -/
theorem accum_guard (s : Bytes) : ∀ acc, acc ≤ int64Max →
    accum true acc s = if decFrom acc (s.takeWhile isDigit) ≤ int64Max
      then .val (decFrom acc (s.takeWhile isDigit)) (s.dropWhile isDigit) else .rejected := by
  induction s with
  | nil => intro acc h; exact (if_pos h).symm
  | cons c t ih =>
    intro acc hacc
    rw [accum]
    by_cases hc : isDigit c = true
    · -- the guard `acc > (max - d) / 10` says exactly that the next value does not fit
      have hg : acc > (int64Max - digitVal c) / 10 ↔ ¬ acc * 10 + digitVal c ≤ int64Max := by
        have := digitVal_le hc
        have : 9 ≤ int64Max := by decide
        rw [gt_iff_lt, Nat.div_lt_iff_lt_mul (by decide)]; omega
      rw [if_pos hc, List.takeWhile_cons_of_pos hc, List.dropWhile_cons_of_pos hc, decFrom_cons]
      by_cases hfit : acc * 10 + digitVal c ≤ int64Max
      · simp only [mt hg.1 (not_not_intro hfit), decide_false, Bool.and_false, Bool.false_eq_true, if_false, Nat.not_lt.2 hfit]
        exact ih _ hfit
      · simp only [hg.2 hfit, decide_true, Bool.and_self, if_true]
        exact (if_neg fun h => hfit (Nat.le_trans (le_decFrom _ _) h)).symm
    · rw [if_neg hc, List.takeWhile_cons_of_neg hc, List.dropWhile_cons_of_neg hc]
      exact (if_pos hacc).symm

theorem toSystemClock_guard (count m : Nat) (hm : 0 < m) :
    toSystemClock true count m = if count * m ≤ int64Max then .ok (count * m) else .invalid := by
  unfold toSystemClock
  have key : count > int64Max / m ↔ ¬ count * m ≤ int64Max := by
    rw [gt_iff_lt, Nat.div_lt_iff_lt_mul hm, Nat.not_le]
  by_cases h : count * m ≤ int64Max
  · rw [if_pos h, if_neg (by simpa [key] using h), if_neg (Nat.not_lt.2 h)]
  · rw [if_neg h, if_pos (by simpa [key] using h)]

/-- `GetTimeoutFromString` with the guards of the fix, in closed form: the number is the value of the digits after the
    leading white space, the unit is everything after them -/
theorem timeoutFromString_guard (s : Bytes) :
    timeoutFromString true s =
      match unitLookup unitTable ((s.dropWhile isSpace).dropWhile isDigit) with
      | some m =>
        if decVal ((s.dropWhile isSpace).takeWhile isDigit) ≠ 0 ∧ decVal ((s.dropWhile isSpace).takeWhile isDigit) * m ≤ int64Max
          then .ok (decVal ((s.dropWhile isSpace).takeWhile isDigit) * m) else .invalid
      | none => .invalid := by
  unfold timeoutFromString decVal
  rw [accum_guard _ 0 (Nat.zero_le _), unit_table]
  generalize decFrom 0 ((s.dropWhile isSpace).takeWhile isDigit) = n
  cases hl : unitLookup unitTable ((s.dropWhile isSpace).dropWhile isDigit) with
  | none => by_cases hn : n ≤ int64Max <;> simp only [hn, if_true, if_false, hl, ite_self]
  | some m =>
    have hm : 0 < m := unitTable_pos _ ((unitLookup_iff _ unitTable_nodup _ _).1 hl)
    by_cases hn : n ≤ int64Max
    · simp only [if_pos hn, hl, toSystemClock_guard n m hm]
      by_cases h0 : n = 0 <;> simp [h0]
    · have : ¬ n * m ≤ int64Max := fun h => hn (Nat.le_trans (Nat.le_mul_of_pos_right n hm) h)
      simp only [if_neg hn, this, and_false, if_false]

/-- **durations: digits with an optional ns/us/ms/s/m/h unit.**  The reader returns `true` with `ns` nanoseconds exactly
    for the strings of the documented syntax that denote `ns` -/
theorem parseDuration_iff_documented (s : Bytes) (ns : Nat) : getDuration (some s) = .ok ns ↔ DurationSyntax s ns := by
  unfold getDuration getDurationWith DurationSyntax
  simp only [timeoutFromString_guard, ← int64Max_eq, ← isDigit_iff, ← decVal_eq]
  constructor
  · intro h
    split at h
    · cases h
    · split at h
      · rename_i m hl
        split at h
        · -- the witnesses are the three longest prefixes the code takes
          rename_i hok
          refine ⟨s.takeWhile isSpace, (s.dropWhile isSpace).takeWhile isDigit, (s.dropWhile isSpace).dropWhile isDigit, m, ?_,
            List.all_eq_true.1 List.all_takeWhile, ?_, List.all_eq_true.1 List.all_takeWhile,
            (unitLookup_iff _ unitTable_nodup _ _).1 hl, hok.1, (DurOut.ok.inj h).symm, DurOut.ok.inj h ▸ hok.2⟩
          · rw [List.append_assoc, List.takeWhile_append_dropWhile, List.takeWhile_append_dropWhile]
          · intro h0; rw [h0] at hok; exact hok.1 rfl
        · cases h
      · cases h
  · -- white space ends where the digits begin, the digits where the unit begins (no unit starts with a digit)
    rintro ⟨ws, ds, u, m, rfl, hws, hne, hds, hmem, hnz, rfl, hle⟩
    have hu := span_append hds (unitTable_head _ hmem)
    have hd : ∀ c, (ds ++ u).head? = some c → isSpace c = false := by
      obtain ⟨d, t, rfl⟩ := List.exists_cons_of_ne_nil hne
      intro c hc; cases hc; exact (digit_not_space_sign (hds d List.mem_cons_self)).1
    -- the value holds a digit, so it is not the empty string that the reader answers with `unset`
    have hval : ¬ (ws ++ (ds ++ u)).isEmpty = true := by cases ds with | nil => exact absurd rfl hne | cons => simp
    rw [List.append_assoc, if_neg hval, (span_append hws hd).2, hu.1, hu.2, (unitLookup_iff _ unitTable_nodup _ _).2 hmem]
    exact if_pos ⟨hnz, hle⟩

example : DurationSyntax [49, 53, 109, 115] 15000000 :=     -- "15ms"
  ⟨[], [49, 53], [109, 115], 1000000, rfl, by simp, by simp, by decide, by decide, by decide, by decide, by decide⟩

/-- the explicit signed-overflow token is unreachable: neither the digit loop nor the unit conversion overflows (D15) -/
theorem parseDuration_never_ub (env : Option Bytes) : getDuration env ≠ .ub := by
  unfold getDuration getDurationWith
  cases env with
  | none => exact fun h => nomatch h
  | some s =>
    simp only [timeoutFromString_guard]
    repeat' split
    all_goals exact fun h => nomatch h

/-- every other string falls back: `false` is returned and the caller's value is left as it was (`invalid`), or set to
    zero when the variable is unset or empty (`unset`) — never a partial value, never undefined behaviour -/
theorem parseDuration_default_otherwise (env : Option Bytes) (h : ¬ ∃ s ns, env = some s ∧ DurationSyntax s ns) :
    getDuration env = .invalid ∨ getDuration env = .unset := by
  cases hres : getDuration env with
  | invalid => exact Or.inl rfl
  | unset => exact Or.inr rfl
  | ub => exact absurd hres (parseDuration_never_ub env)
  | ok ns =>
    cases env with
    | none => cases hres
    | some s => exact absurd ⟨s, ns, rfl, (parseDuration_iff_documented s ns).1 hres⟩ h

/-! The reader before the D15 fix (`getDurationAsWas`): signed overflow in the digit loop and in the unit conversion -/
-- "99999999999999999999s"
theorem parseDuration_aswas_witness_ub :
    getDurationAsWas (some [57, 57, 57, 57, 57, 57, 57, 57, 57, 57, 57, 57, 57, 57, 57, 57, 57, 57, 57, 57, 115]) = .ub := by
  decide +kernel
-- "9223372037s": the digits fit, 9223372037·10⁹ ns does not
theorem parseDuration_aswas_witness_convert_ub :
    getDurationAsWas (some [57, 50, 50, 51, 51, 55, 50, 48, 51, 55, 115]) = .ub := by
  decide +kernel

/-! ## Floats: acceptance only -/

/-- a value `strtof` flags as out of range is rejected: the default 0 is returned, never ±HUGE_VAL or a denormal -/
theorem parseFloat_rejects_on_range_error (errnoIn : Bool) (env : Option Bytes) : getFloatOk errnoIn true env = false := by
  unfold getFloatOk getFloatOkWith
  cases env with
  | none => rfl
  | some s => cases s <;> rfl

/-- the incoming `errno` has no influence (D15: the same stale-`ERANGE` defect as in the uint reader) -/
theorem parseFloat_errno_irrelevant (rangeErr : Bool) (env : Option Bytes) :
    getFloatOk true rangeErr env = getFloatOk false rangeErr env := rfl

/-- `mantLen isDigit 101` is the decimal mantissa with an optional `e` exponent (101); 46 is the point.  Without an
    exponent the mantissa `ip` or `ip.fp` is read to its end. -/
theorem mantLen_decimal (ip fp : Bytes) (hip : ip ≠ []) (d1 : ∀ c ∈ ip, isDigit c = true) (d2 : ∀ c ∈ fp, isDigit c = true) :
    mantLen isDigit 101 ip = ip.length ∧ mantLen isDigit 101 (ip ++ 46 :: fp) = (ip ++ 46 :: fp).length := by
  have he : ip.isEmpty = false := by cases ip with | nil => exact absurd rfl hip | cons => rfl
  have h1 := (span_append (b := 46 :: fp) d1 (fun c hc => by cases hc; decide)).1
  unfold mantLen
  constructor
  · -- all of `ip` is the integer part; nothing follows, so there is neither a fraction nor an exponent
    simp only [takeWhile_eq_self.2 d1, List.drop_length, he, Bool.false_and, Bool.false_eq_true, if_false, Nat.add_zero, expLen]
  · -- the integer part ends at the point, the fraction is all of `fp`, and nothing is left for an exponent
    simp only [h1, List.drop_left, takeWhile_eq_self.2 d2, he, Bool.false_and, Bool.false_eq_true, if_false, List.length_append,
      List.length_cons]
    rw [show ip.length + (1 + fp.length) = (ip ++ 46 :: fp).length by simp only [List.length_append, List.length_cons]; omega,
      List.drop_length]
    simp only [expLen, List.length_append, List.length_cons]; omega

/-- a string of digits and points begins with none of the words `strtof` knows (`inf`, `nan`, `0x`): each has a letter -/
theorem hasPrefixCi_decimal {lit s : Bytes} (hs : ∀ c ∈ s, isDigit c = true ∨ c = 46) (hl : ∃ l ∈ lit, 58 ≤ l.toNat) :
    hasPrefixCi lit s = false := by
  obtain ⟨l, hl, h58⟩ := hl
  refine Bool.eq_false_iff.2 fun h => ?_
  rw [hasPrefixCi, beq_iff_eq] at h
  obtain ⟨c, hc, rfl⟩ := List.mem_map.1 (h ▸ hl)
  -- `l` would be `tolower c` for a digit or point `c` of `s`: that is `c` itself, and below the letters
  rcases hs c (List.mem_of_mem_take hc) with hd | rfl
  · have := isDigit_toNat.1 hd; rw [toLower_toNat] at h58; split at h58 <;> omega
  · revert h58; decide

/-- a string of digits and points that starts with a digit and is a mantissa to its end is accepted: it has no white
    space or sign to skip and is none of `inf`, `nan`, `0x…` -/
theorem getFloatOk_decimal (e : Bool) (c : UInt8) (t : Bytes) (hc : isDigit c = true)
    (hs : ∀ x ∈ c :: t, isDigit x = true ∨ x = 46) (hm : mantLen isDigit 101 (c :: t) = (c :: t).length) :
    getFloatOk e false (some (c :: t)) = true := by
  obtain ⟨hsp, h45, h43⟩ := digit_not_space_sign hc
  have hbody : floatBodyLen (c :: t) = (c :: t).length := by
    unfold floatBodyLen
    -- every prefix test fails (`decide` finds the letter in each word), so the body is the decimal mantissa
    simp (disch := decide) only [hasPrefixCi_decimal hs, Bool.false_and, Bool.false_eq_true, if_false, hm]
  -- no white space and no sign to skip, so `strtof` ends where the body ends: at the end of the string
  unfold getFloatOk getFloatOkWith strtofEnd
  simp only [List.dropWhile_cons, hsp, Bool.false_eq_true, if_false, beq_eq_false_iff_ne.2 h43, beq_eq_false_iff_ne.2 h45,
    Bool.or_self, List.drop_zero, hbody, List.isEmpty_cons, Nat.sub_self, Nat.zero_add, if_true, Bool.not_false,
    Bool.true_and, List.length_cons, Nat.add_eq_zero_iff, Nat.succ_ne_self, and_false, beq_self_eq_true]

/-- plain decimals `digits` and `digits.digits` in range are accepted whatever `errno` was -/
theorem parseFloat_accepts_decimal (errnoIn : Bool) (ip fp : Bytes) (hip : ip ≠ []) (h1 : ∀ c ∈ ip, IsDigit c)
    (h2 : ∀ c ∈ fp, IsDigit c) :
    getFloatOk errnoIn false (some ip) = true ∧ getFloatOk errnoIn false (some (ip ++ 46 :: fp)) = true := by
  simp only [← isDigit_iff] at h1 h2
  have hm := mantLen_decimal ip fp hip h1 h2
  have hs : ∀ c ∈ ip ++ 46 :: fp, isDigit c = true ∨ c = 46 := fun c hc =>
    (List.mem_append.1 hc).elim (fun h => Or.inl (h1 c h)) fun h => (List.mem_cons.1 h).elim Or.inr fun h => Or.inl (h2 c h)
  obtain ⟨c, t, rfl⟩ := List.exists_cons_of_ne_nil hip
  have hc := h1 c List.mem_cons_self
  exact ⟨getFloatOk_decimal _ c t hc (fun x hx => Or.inl (h1 x hx)) hm.1, getFloatOk_decimal _ c (t ++ 46 :: fp) hc hs hm.2⟩

example : getFloatOk true false (some [49, 46, 53]) = true := by decide +kernel    -- "1.5"

section Resources
open Otel.Resource

/-- the keys named in the property text -/
def kServiceName : Bytes := [115, 101, 114, 118, 105, 99, 101, 46, 110, 97, 109, 101]                    -- service.name
def kSdkLanguage : Bytes := [116, 101, 108, 101, 109, 101, 116, 114, 121, 46, 115, 100, 107, 46, 108, 97, 110, 103, 117, 97, 103, 101]
def kSdkName : Bytes := [116, 101, 108, 101, 109, 101, 116, 114, 121, 46, 115, 100, 107, 46, 110, 97, 109, 101]
def kSdkVersion : Bytes := [116, 101, 108, 101, 109, 101, 116, 114, 121, 46, 115, 100, 107, 46, 118, 101, 114, 115, 105, 111, 110]
def kProcessExe : Bytes := [112, 114, 111, 99, 101, 115, 115, 46, 101, 120, 101, 99, 117, 116, 97, 98, 108, 101, 46, 110, 97, 109, 101]
def unknownService : Bytes := [117, 110, 107, 110, 111, 119, 110, 95, 115, 101, 114, 118, 105, 99, 101]   -- unknown_service

theorem resource_keys : Gen.resServiceNameKey = kServiceName ∧ Gen.resProcessExeKey = kProcessExe ∧
    Gen.resUnknownService = unknownService ∧ Gen.resUnknownServiceSep = [58] ∧ Gen.resListSep = 44 ∧ Gen.resKvSep = 61 := by decide

/-- `a <|> b` on lookups: the first if present, else the second -/
def orElse (a b : Option Val) : Option Val := match a with | some v => some v | none => b

theorem lookup_append (m n : Attrs) (k : Bytes) : lookup (m ++ n) k = orElse (lookup m k) (lookup n k) := by
  induction m with
  | nil => rfl
  | cons p t ih =>
    obtain ⟨k', v⟩ := p
    simp only [List.cons_append, lookup]
    by_cases h : k' = k
    · simp [h, orElse]
    · simp [h, ih]

theorem lookup_set (m : Attrs) (k' : Bytes) (v : Val) (k : Bytes) :
    lookup (Resource.set m k' v) k = if k' = k then some v else lookup m k := by
  induction m with
  | nil => simp [Resource.set, lookup]
  | cons p t ih =>
    obtain ⟨k0, v0⟩ := p
    by_cases h1 : k0 = k
    · subst h1
      by_cases h0 : k0 = k'
      · simp [Resource.set, lookup, h0]
      · simp [Resource.set, lookup, h0, Ne.symm h0]
    · by_cases h0 : k0 = k'
      · subst h0; simp [Resource.set, lookup, h1]
      · simp [Resource.set, lookup, h0, h1, ih]

theorem lookup_insertNew (m : Attrs) (kv : Bytes × Val) (k : Bytes) :
    lookup (insertNew m kv) k = orElse (lookup m k) (if kv.1 = k then some kv.2 else none) := by
  unfold insertNew
  cases h : lookup m kv.1 with
  | some v =>
    simp only
    by_cases hk : kv.1 = k
    · rw [← hk, h]; rfl
    · simp only [hk, if_false]; cases lookup m k <;> rfl
  | none =>
    simp only
    rw [lookup_append]
    simp [lookup]

theorem lookup_foldl_insertNew (l : Attrs) : ∀ (m : Attrs) (k : Bytes),
    lookup (l.foldl insertNew m) k = orElse (lookup m k) (lookup l k) := by
  induction l with
  | nil => intro m k; simp only [List.foldl_nil, lookup]; cases lookup m k <;> rfl
  | cons p t ih =>
    intro m k
    rw [List.foldl_cons, ih, lookup_insertNew]
    obtain ⟨k', v⟩ := p
    simp only [lookup]
    cases lookup m k with
    | some x => rfl
    | none => by_cases h : k' = k <;> simp [h, orElse]

/-- **`a.Merge(b)` contains the union of both with `b`'s value winning on every shared key**, for all attribute maps -/
theorem merge_union_right_biased (a b : Res) (k : Bytes) :
    lookup (merge a b).attrs k = orElse (lookup b.attrs k) (lookup a.attrs k) := by
  unfold merge
  exact lookup_foldl_insertNew a.attrs b.attrs k

/-- the merged key set is exactly the union -/
theorem merge_keys_union (a b : Res) (k : Bytes) :
    (lookup (merge a b).attrs k).isSome = ((lookup a.attrs k).isSome || (lookup b.attrs k).isSome) := by
  rw [merge_union_right_biased]
  cases lookup a.attrs k <;> cases lookup b.attrs k <;> rfl

/-- **…and `b`'s schema URL unless it is empty** -/
theorem merge_schema (a b : Res) : (merge a b).schema = if b.schema = [] then a.schema else b.schema := by
  unfold merge
  cases hb : b.schema <;> simp

example : merge ⟨[([97], .str [49])], [117]⟩ ⟨[([97], .str [50])], []⟩ = ⟨[([97], .str [50])], [117]⟩ := by decide

theorem step_prefix (st : List Res) (op : Op) : st <+: step st op := by
  cases op with
  | mk a s => exact List.prefix_append _ _
  | merge x y => simp only [step]; split <;> simp

theorem run_prefix (ops : List Op) : ∀ st, st <+: run st ops := by
  induction ops with
  | nil => exact fun st => List.prefix_refl st
  | cons op t ih => exact fun st => (step_prefix st op).trans (ih _)

theorem getElem?_of_prefix {l₁ l₂ : List Res} (h : l₁ <+: l₂) {i : Nat} (hi : i < l₁.length) : l₂[i]? = l₁[i]? := by
  obtain ⟨t, rfl⟩ := h; exact List.getElem?_append_left hi

/-- **…and leaves `a` and `b` unchanged**: in a store of resources a `Merge` (or a construction) only appends; every
    resource that existed before, in particular both operands, is what it was -/
theorem merge_pure (st : List Res) (op : Op) (i : Nat) (hi : i < st.length) : (step st op)[i]? = st[i]? :=
  getElem?_of_prefix (step_prefix st op) hi

theorem merge_result (st : List Res) (i j : Nat) (a b : Res) (ha : st[i]? = some a) (hb : st[j]? = some b) :
    step st (.merge i j) = st ++ [merge a b] := by
  simp only [step, ha, hb]

/-- over every history of constructions and merges, no existing resource ever changes -/
theorem merge_pure_history (ops : List Op) : ∀ (st : List Res) (i : Nat), i < st.length → (run st ops)[i]? = st[i]? :=
  fun st _ hi => getElem?_of_prefix (run_prefix ops st) hi

/-- the SDK defaults named in the property text -/
theorem defaults_are_sdk_identity :
    lookup defaultRes.attrs kSdkLanguage = some (.str [99, 112, 112]) ∧                                       -- cpp
    lookup defaultRes.attrs kSdkName = some (.str [111, 112, 101, 110, 116, 101, 108, 101, 109, 101, 116, 114, 121]) ∧   -- opentelemetry
    (lookup defaultRes.attrs kSdkVersion).isSome = true ∧
    lookup defaultRes.attrs kServiceName = none ∧ defaultRes.schema = [] := by
  refine ⟨by decide, by decide, by decide, by decide, by decide⟩

/-- the three layers `Resource::Create` stacks: SDK defaults, then the environment, then the caller -/
def layered (env user : Res) (k : Bytes) : Option Val :=
  orElse (lookup user.attrs k) (orElse (lookup env.attrs k) (lookup defaultRes.attrs k))

theorem merged3_lookup (env user : Res) (k : Bytes) :
    lookup (merge (merge defaultRes env) user).attrs k = layered env user k := by
  rw [merge_union_right_biased, merge_union_right_biased]; rfl

/-- **`Resource::Create(attrs)`: SDK defaults, overridden by the environment, overridden by the caller's attributes.**
    On every key the caller's value wins, then the environment's, then the default; the only other entry ever present is
    the `service.name` fallback when none of the three layers has one. -/
theorem create_precedence (env user : Res) (k : Bytes) :
    lookup (create env user).attrs k =
      match layered env user k with
      | some v => some v
      | none => if k = kServiceName then some (.str (fallbackServiceName (merge (merge defaultRes env) user).attrs)) else none := by
  unfold create
  rw [resource_keys.1]
  simp only [merged3_lookup]
  cases hsn : layered env user kServiceName with
  | some v0 =>
    -- a `service.name` is there: nothing is added, and no key falls back
    simp only [merged3_lookup]
    cases hl : layered env user k with
    | some v => rfl
    | none => exact (if_neg fun hk => by rw [hk, hsn] at hl; cases hl).symm
  | none =>
    -- the fallback is set under `service.name`; every other key is looked up as before
    simp only [lookup_set, merged3_lookup]
    by_cases hk : kServiceName = k
    · rw [← hk, hsn, if_pos rfl]
    · rw [if_neg hk, if_neg (Ne.symm hk)]; cases layered env user k <;> rfl

/-- **…and always contains a `service.name`** -/
theorem create_has_service_name (env user : Res) : (lookup (create env user).attrs kServiceName).isSome = true := by
  rw [create_precedence]
  cases layered env user kServiceName <;> simp

/-- the fallback is `unknown_service`, or `unknown_service:<process.executable.name>` when that attribute is a string;
    a non-string `process.executable.name` is ignored (D61: the code used to call `get<std::string>` on it and throw) -/
theorem create_service_name_fallback (env user : Res) (h : layered env user kServiceName = none) :
    lookup (create env user).attrs kServiceName =
      match layered env user kProcessExe with
      | some (.str exe) => some (.str (unknownService ++ [58] ++ exe))
      | _ => some (.str unknownService) := by
  rw [create_precedence, h]
  simp only [if_true]
  unfold fallbackServiceName
  obtain ⟨_, hExeKey, hUnknown, hSep, _, _⟩ := resource_keys
  rw [hExeKey, hUnknown, hSep, merged3_lookup]
  cases layered env user kProcessExe with
  | none => rfl
  | some v => cases v <;> rfl

/-! ### The `OTEL_RESOURCE_ATTRIBUTES` detector: key=value lists -/

/-- every item followed by a comma -/
def terminated (toks : List Bytes) : Bytes := toks.flatMap (· ++ [44])

theorem terminated_cons (tok : Bytes) (toks : List Bytes) : terminated (tok :: toks) = tok ++ 44 :: terminated toks := by
  simp [terminated]

/-- **the items of the list**: `s` is the concatenation of the comma-free items, each followed by a comma, the final
    comma being optional (an empty item after a final comma is not an item) -/
theorem getlines_spec : ∀ (fuel : Nat) (s : Bytes), s.length ≤ fuel →
    (∀ t ∈ getlines 44 fuel s, (44 : UInt8) ∉ t) ∧
    (terminated (getlines 44 fuel s) = s ∨ (terminated (getlines 44 fuel s) = s ++ [44] ∧ s.getLast? ≠ some 44))
  | 0, [], _ | _ + 1, [], _ => ⟨nofun, Or.inl rfl⟩    -- the empty string has no items
  | n + 1, c :: t, hs => by
    simp only [getlines]
    generalize htk : takeTok 44 (c :: t) = r
    obtain ⟨tok, _ | rest⟩ := r
    · obtain ⟨h1, h2⟩ := takeTok_none htk
      exact ⟨fun t ht => List.mem_singleton.1 ht ▸ h2,
        Or.inr ⟨by rw [h1, terminated_cons]; rfl, fun hl => h2 (List.mem_of_getLast? (h1 ▸ hl))⟩⟩
    · obtain ⟨h1, h2⟩ := takeTok_some htk
      obtain ⟨i1, i2⟩ := getlines_spec n rest (by rw [h1, List.length_append, List.length_cons] at hs; omega)
      refine ⟨List.forall_mem_cons.2 ⟨h2, i1⟩, ?_⟩
      rw [terminated_cons, h1]
      rcases i2 with e | ⟨e, hl⟩
      · exact Or.inl (by rw [e])
      · refine Or.inr ⟨by rw [e, List.append_assoc]; rfl, ?_⟩
        cases rest with
        | nil => cases n <;> cases e    -- `e` would say `[] = [44]`
        | cons y ys =>
          -- the last byte of `tok ++ 44 :: y :: ys` is the last byte of `y :: ys`
          rwa [List.getLast?_append, List.getLast?_cons_cons, List.getLast?_cons, Option.some_or, ← List.getLast?_cons]

theorem tokens_spec (s : Bytes) :
    (∀ t ∈ tokens s, (44 : UInt8) ∉ t) ∧
    (terminated (tokens s) = s ∨ (terminated (tokens s) = s ++ [44] ∧ s.getLast? ≠ some 44)) := by
  obtain ⟨_, _, _, _, hListSep, _⟩ := resource_keys
  unfold tokens
  rw [hListSep]
  exact getlines_spec s.length s (Nat.le_refl _)

/-- item `t` reads `k=val`: the key is what precedes the first `=` -/
def HasKey (t k val : Bytes) : Prop := t = k ++ 61 :: val ∧ (61 : UInt8) ∉ k
def NoKey (toks : List Bytes) (k : Bytes) : Prop := ∀ t ∈ toks, ∀ val, ¬ HasKey t k val
/-- `k=val` is the last item with key `k` -/
def LastItem (toks : List Bytes) (k val : Bytes) : Prop :=
  ∃ pre x post, toks = pre ++ x :: post ∧ HasKey x k val ∧ NoKey post k

def parseStep (m : Attrs) (tok : Bytes) : Attrs :=
  match takeTok Gen.resKvSep tok with
  | (_, none) => m
  | (k, some v) => Resource.set m k (Val.str v)

theorem parseAttrs_eq (s : Bytes) : parseAttrs s = (tokens s).foldl parseStep [] := rfl

theorem hasKey_iff {t k val : Bytes} : HasKey t k val ↔ takeTok 61 t = (k, some val) :=
  ⟨fun h => h.1 ▸ takeTok_append_sep k val h.2, takeTok_some⟩

theorem parseStep_lookup (m : Attrs) (t k : Bytes) (v : Val) :
    lookup (parseStep m t) k = some v ↔
      (∃ val, HasKey t k val ∧ v = .str val) ∨ ((∀ val, ¬ HasKey t k val) ∧ lookup m k = some v) := by
  obtain ⟨_, _, _, _, _, hKvSep⟩ := resource_keys
  unfold parseStep
  rw [hKvSep]
  simp only [hasKey_iff]
  rcases takeTok 61 t with ⟨k', _ | v'⟩
  · simp
  · by_cases hkk : k' = k
    · subst hkk; simp [lookup_set, eq_comm]
    · simp [lookup_set, hkk]

theorem lastItem_cons (t : Bytes) (ts : List Bytes) (k val : Bytes) :
    LastItem (t :: ts) k val ↔ LastItem ts k val ∨ (HasKey t k val ∧ NoKey ts k) := by
  constructor
  · rintro ⟨pre, x, post, e, hk, hn⟩
    cases pre with
    | nil =>
      simp only [List.nil_append, List.cons.injEq] at e
      obtain ⟨rfl, rfl⟩ := e
      exact Or.inr ⟨hk, hn⟩
    | cons p pre' =>
      simp only [List.cons_append, List.cons.injEq] at e
      exact Or.inl ⟨pre', x, post, e.2, hk, hn⟩
  · rintro (⟨pre, x, post, e, hk, hn⟩ | ⟨hk, hn⟩)
    · exact ⟨t :: pre, x, post, by rw [e]; rfl, hk, hn⟩
    · exact ⟨[], t, ts, rfl, hk, hn⟩

theorem noKey_cons (t : Bytes) (ts : List Bytes) (k : Bytes) :
    NoKey (t :: ts) k ↔ (∀ val, ¬ HasKey t k val) ∧ NoKey ts k := List.forall_mem_cons

theorem foldl_parse_lookup (toks : List Bytes) : ∀ (m : Attrs) (k : Bytes) (v : Val),
    lookup (toks.foldl parseStep m) k = some v ↔
      (∃ val, v = .str val ∧ LastItem toks k val) ∨ (NoKey toks k ∧ lookup m k = some v) := by
  induction toks with
  | nil =>
    intro m k v
    exact ⟨fun h => Or.inr ⟨nofun, h⟩, fun h => h.elim (fun ⟨_, _, pre, _, _, e, _⟩ => by cases pre <;> cases e) (·.2)⟩
  | cons t ts ih =>
    intro m k v
    rw [List.foldl_cons, ih, parseStep_lookup]
    simp only [lastItem_cons, noKey_cons]
    constructor
    · rintro (⟨val, rfl, hl⟩ | ⟨hn, ⟨val, hk, rfl⟩ | ⟨hno, hm⟩⟩)
      · exact Or.inl ⟨val, rfl, Or.inl hl⟩
      · exact Or.inl ⟨val, rfl, Or.inr ⟨hk, hn⟩⟩
      · exact Or.inr ⟨⟨hno, hn⟩, hm⟩
    · rintro (⟨val, rfl, hl | ⟨hk, hn⟩⟩ | ⟨⟨hno, hn⟩, hm⟩)
      · exact Or.inl ⟨val, rfl, hl⟩
      · exact Or.inr ⟨hn, Or.inl ⟨val, hk, rfl⟩⟩
      · exact Or.inr ⟨hn, Or.inr ⟨hno, hm⟩⟩

/-- **key=value lists**: the detector yields key `k` exactly when some item reads `k=…`, with the string after the first
    `=` of the *last* such item as value — nothing is trimmed, items without `=` are skipped, for every byte string -/
theorem detect_lookup_iff (s k : Bytes) (v : Val) :
    lookup (parseAttrs s) k = some v ↔ ∃ val, v = .str val ∧ LastItem (tokens s) k val := by
  rw [parseAttrs_eq, foldl_parse_lookup]
  constructor
  · rintro (h | ⟨_, h⟩)
    · exact h
    · simp [lookup] at h
  · intro h; exact Or.inl h

-- "a=b,c,a=d=e," : a ↦ "d=e"
example : LastItem (tokens [97, 61, 98, 44, 99, 44, 97, 61, 100, 61, 101, 44]) [97] [100, 61, 101] :=
  ⟨[[97, 61, 98], [99]], [97, 61, 100, 61, 101], [], by decide, ⟨rfl, by decide⟩, by intro t ht; simp at ht⟩

/-- `OTEL_SERVICE_NAME`, when set and not empty, overrides `service.name` of the list and touches nothing else; the
    detected resource has no schema URL -/
theorem detect_service_name_override (envAttrs envService : Option Bytes) (k : Bytes) :
    lookup (detect envAttrs envService).attrs k =
      (match envString envService with
       | some n => if k = kServiceName then some (.str n) else
           match envString envAttrs with | some s => lookup (parseAttrs s) k | none => none
       | none => match envString envAttrs with | some s => lookup (parseAttrs s) k | none => none) ∧
    (detect envAttrs envService).schema = [] := by
  unfold detect
  rw [resource_keys.1]
  refine ⟨?_, rfl⟩
  cases envString envService with
  | none => cases envString envAttrs <;> rfl
  | some n =>
    simp only [lookup_set, eq_comm (a := kServiceName)]
    cases envString envAttrs <;> rfl

end Resources

end Otel.C18
