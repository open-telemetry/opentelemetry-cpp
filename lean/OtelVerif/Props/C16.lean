import OtelVerif.Model.B3
import OtelVerif.Lemmas.Idx
import OtelVerif.Props.C09
/-! # C16 — B3 and Jaeger propagation: round-trip identity and the sampling decision

Property theorems about `Model/B3.lean` (mirrors `b3_propagator.h`, `jaeger.h`) on top of the index-explicit
`SplitString` / `HexToBinary` of `Model/Idx.lean` (mirrors `detail/string.h`, `detail/hex.h`).  Header names,
separators, lengths, the characters accepted as "sampled" and the expression written into `X-B3-Sampled` come from
`Gen/B3.lean`, re-extracted from the source on every run; the numbers of the B3 / Jaeger formats (32, 16, 51, 54,
`-`, `:`, `1`, `d`) are literals here.  The hex vocabulary (`lowerHex`, `decodeHex`, `IsHexChar`, `NonZero`) is C09's. -/
namespace Otel.C16
open Otel Otel.TraceContext Otel.C09

/-! The specification vocabulary is written from the property text. -/

/-- the sampling decision carried by a flags byte: bit 0, whatever the other seven bits are -/
def Sampled (f : UInt8) : Prop := f.toNat % 2 = 1

instance : DecidablePred Sampled := fun f => by unfold Sampled; exact inferInstance

/-- the flags byte a B3 / Jaeger extractor reports: only the sampling decision survives -/
def sampledBit (f : UInt8) : UInt8 := if Sampled f then 1 else 0

/-- the remote span context that extraction of an injected context must produce -/
def remoteOf (sc : SpanCtx) : SpanCtx :=
  { traceId := sc.traceId, spanId := sc.spanId, flags := sampledBit sc.flags, remote := true, traceState := [] }

/-- value of a hex string of either parity (an odd string has an implicit leading `0`) -/
def decodeHexAny (s : Bytes) : Bytes := if s.length % 2 = 1 then decodeHex (48 :: s) else decodeHex s

/-- `width` bytes, the value right-aligned: "left-padded with zeros" -/
def leftPad (width : Nat) (v : Bytes) : Bytes := List.replicate (width - v.length) 0 ++ v

/-- B3 sampling state field → flags: `1` and the debug flag `d` mean sampled; anything else (`0`, absent, junk) not -/
def b3Decision (f : Bytes) : UInt8 := if f = [49] ∨ f = [100] then 1 else 0

theorem gen_b3 : Gen.b3Sep = 45 ∧ Gen.b3FieldCount = 3 ∧ Gen.b3MinFields = 2 ∧ Gen.b3TraceIdHexLen = 32 ∧
    Gen.b3SpanIdHexLen = 16 ∧ Gen.b3SampledChar = 49 ∧ Gen.b3DebugChar = 100 ∧ Gen.b3InjectSeps = [45, 45] ∧
    Gen.b3InjectSampled = 49 ∧ Gen.b3InjectNotSampled = 48 ∧ Gen.kIsSampled = 1 := by decide

theorem gen_b3_split : Gen.b3Sep = 45 ∧ Gen.b3FieldCount = 3 ∧ Gen.b3MinFields = 2 ∧
    Gen.b3TraceIdHexLen = 32 ∧ Gen.b3SpanIdHexLen = 16 := by
  obtain ⟨hSep, hCount, hMin, hTid, hSid, _⟩ := gen_b3
  exact ⟨hSep, hCount, hMin, hTid, hSid⟩

theorem gen_b3_flags : Gen.b3SampledChar = 49 ∧ Gen.b3DebugChar = 100 ∧ Gen.kIsSampled = 1 := by
  obtain ⟨_, _, _, _, _, hSampled, hDebug, _, _, _, hBit⟩ := gen_b3
  exact ⟨hSampled, hDebug, hBit⟩

theorem gen_b3_inject : Gen.b3InjectSeps = [45, 45] ∧ Gen.b3InjectSampled = 49 ∧ Gen.b3InjectNotSampled = 48 := by
  obtain ⟨_, _, _, _, _, _, _, hSeps, hYes, hNo, _⟩ := gen_b3
  exact ⟨hSeps, hYes, hNo⟩

/-- D05 is repaired in the source: `X-B3-Sampled` is written from the sampling decision -/
theorem gen_b3_multi_fixed : Gen.b3MultiSampledFromDecision = true := by decide

theorem gen_jaeger : Gen.jaegerSep = 58 ∧ Gen.jaegerFieldCount = 4 ∧ Gen.jaegerIsSampled = 1 ∧
    Gen.jaegerInjectLits = [58, 58, 48, 58, 48] ∧ Gen.jaegerInjectSampled = 49 ∧ Gen.jaegerInjectNotSampled = 48 ∧
    Gen.jaegerTraceIdLen = 32 ∧ Gen.jaegerSpanIdLen = 16 ∧ Gen.jaegerInjectExtra = 6 := by decide

/-- the header names: `b3`, `X-B3-TraceId`, `X-B3-SpanId`, `X-B3-Sampled`, `uber-trace-id` (ASCII codes) -/
theorem gen_header_names : Gen.b3CombinedHeader = [98, 51] ∧
    Gen.b3TraceIdHeader = [88, 45, 66, 51, 45, 84, 114, 97, 99, 101, 73, 100] ∧
    Gen.b3SpanIdHeader = [88, 45, 66, 51, 45, 83, 112, 97, 110, 73, 100] ∧
    Gen.b3SampledHeader = [88, 45, 66, 51, 45, 83, 97, 109, 112, 108, 101, 100] ∧
    Gen.jaegerHeader = [117, 98, 101, 114, 45, 116, 114, 97, 99, 101, 45, 105, 100] := by decide

theorem and_one_eq_sampledBit : ∀ f : UInt8, f &&& 1 = sampledBit f := by
  intro f
  have h : (f &&& 1).toNat = f.toNat % 2 := by rw [UInt8.toNat_and]; exact Nat.and_one_is_mod _
  apply UInt8.toNat_inj.1
  rw [h, sampledBit]
  by_cases hs : Sampled f
  · rw [if_pos hs]; exact hs
  · rw [if_neg hs]; exact (Nat.mod_two_eq_zero_or_one _).resolve_right hs

theorem isSampled_iff : ∀ f : UInt8, B3.isSampled f = true ↔ Sampled f := by
  intro f
  rw [B3.isSampled, gen_b3_flags.2.2, bne_iff_ne, show UInt8.ofNat 1 = 1 from rfl, and_one_eq_sampledBit, sampledBit]
  -- `(if Sampled f then 1 else 0) ≠ 0 ↔ Sampled f`, by the two cases of the `if`
  by_cases hs : Sampled f
  · simp [hs]
  · simp [hs]

theorem isSampled_eq (f : UInt8) : B3.isSampled f = decide (Sampled f) :=
  Bool.eq_iff_iff.2 (by rw [isSampled_iff, decide_eq_true_eq])

theorem b3Decision_digit (p : Prop) [Decidable p] : b3Decision [if p then 49 else 48] = if p then 1 else 0 := by
  split <;> rfl

/-- D05, as a fact about every flags byte: the low hex digit of the flags byte reads back as the right sampling
    decision exactly when the byte is not "sampled with another bit of the low nibble set" — except that the low
    nibble `0xd` is printed as `d`, which the extractor takes for the debug flag, i.e. sampled.  Wrong for the low
    nibbles 3, 5, 7, 9, b, f: 96 of the 256 flag bytes. -/
theorem asis_multi_sampled_right_iff : ∀ f : UInt8,
    b3Decision (B3.multiSampled false f) = sampledBit f ↔ ¬ (f &&& 1 = 1 ∧ f &&& 0xF ≠ 1 ∧ f &&& 0xF ≠ 0xD) :=
  forall_byte _ (by decide +kernel)

theorem fixed_multi_sampled_val (f : UInt8) : B3.multiSampled true f = [if Sampled f then 49 else 48] := by
  simp only [B3.multiSampled, if_true, isSampled_eq, decide_eq_true_eq]

/-- the repaired expression is right for every flags byte -/
theorem fixed_multi_sampled_right : ∀ f : UInt8, b3Decision (B3.multiSampled true f) = sampledBit f := by
  intro f
  rw [fixed_multi_sampled_val, b3Decision_digit]
  rfl

/-- the three fields B3 extraction works on: from the single `b3` header when it is non-empty (at least two
    `-`-separated fields, a fourth and later ones — the parent span id — ignored), else from the three `X-B3-*` headers -/
def b3Fields (b3 tid sid smp : Bytes) : Option (Bytes × Bytes × Bytes) :=
  if b3 = [] then some (tid, sid, smp)
  else
    let fs := splitString 45 3 b3
    if fs.length < 2 then none else some (fs.getD 0 [], fs.getD 1 [], fs.getD 2 [])

def b3Pure (b3 tid sid smp : Bytes) : Option SpanCtx :=
  match b3Fields b3 tid sid smp with
  | none => none
  | some (th, sh, fh) =>
    if isValidHex th && isValidHex sh then
      let t := (hexToBinary th 16).2
      let s := (hexToBinary sh 8).2
      if allZero t || allZero s then none
      else some { traceId := t, spanId := s, flags := b3Decision fh, remote := true, traceState := [] }
    else none

/-- the remote context that two hex id fields and a flags byte denote — what is common to B3 and Jaeger once the fields are
    cut out of the carrier; `none` when a field is not hex or an id is zero (an over-long field leaves the zeroed buffer) -/
def idCtx (th sh : Bytes) (f : UInt8) : Option SpanCtx :=
  if isValidHex th && isValidHex sh then
    let t := (hexToBinary th 16).2
    let s := (hexToBinary sh 8).2
    if allZero t || allZero s then none
    else some { traceId := t, spanId := s, flags := f, remote := true, traceState := [] }
  else none

/-- Jaeger: the context denoted by the trace-id, span-id and flags fields (the third field, the parent id, is ignored) -/
def jaegerOf (th sh fh : Bytes) : Option SpanCtx :=
  if isValidHex fh && decide (th.length ≤ 32) && decide (sh.length ≤ 16) && decide (fh.length ≤ 2) then
    idCtx th sh ((hexToBinary fh 1).2.headD 0 &&& 1)
  else none

/-- exactly four `:`-separated fields are required (a fifth and later ones are cut off by `SplitString`) -/
def jaegerPure (h : Bytes) : Option SpanCtx :=
  let fs := splitString 58 4 h
  if fs.length = 4 then jaegerOf (fs.getD 0 []) (fs.getD 1 []) (fs.getD 3 []) else none

theorem traceFlagsFromHex_eq (f : Bytes) : B3.traceFlagsFromHex f = .ok (b3Decision f) := by
  obtain ⟨hSampled, hDebug, hBit⟩ := gen_b3_flags
  unfold B3.traceFlagsFromHex b3Decision
  rw [hSampled, hDebug, hBit]
  match f with
  | [] => simp
  | [c] =>
    have hrd : Idx.rd [c] 0 = .ok c := rfl
    simp only [List.length_cons, List.length_nil, ne_eq, not_true, if_false, hrd, IxRes.bind_ok]
    by_cases h1 : c = 49 <;> by_cases h2 : c = 100 <;> simp [h1, h2]
  | _ :: _ :: _ => simp

theorem b3_fields_eq (b3 tid sid smp : Bytes) : B3.fields b3 tid sid smp = .ok (b3Fields b3 tid sid smp) := by
  obtain ⟨hSep, hCount, hMin, _⟩ := gen_b3_split
  unfold B3.fields b3Fields
  rw [hSep, hCount, hMin, Idx.splitString_eq]
  cases b3 with
  | nil => simp
  | cons c t =>
    simp only [List.isEmpty_cons, Bool.not_false, if_true, IxRes.bind_ok, reduceCtorEq, if_false]
    split <;> rfl

theorem hexPairs_length : ∀ s : Bytes, (hexPairs s).length = s.length / 2
  | [] => rfl
  | [_] => by simp [hexPairs]
  | a :: b :: t => by simp [hexPairs, hexPairs_length t]; omega

theorem hexToBinary_length (hex : Bytes) (n : Nat) : (hexToBinary hex n).2.length = n := by
  unfold hexToBinary
  split
  · exact List.length_replicate
  · rename_i hl
    rw [List.length_append, List.length_replicate]
    split
    · rename_i ho
      cases hex with
      | nil => cases ho
      | cons c t =>
        rw [List.length_cons] at hl ho
        rw [List.length_cons, List.length_cons, hexPairs_length, Nat.add_div_right _ (by decide : 0 < 2)]
        omega
    · rw [hexPairs_length]
      omega

theorem hexToBinary_fst (hex : Bytes) (n : Nat) : (hexToBinary hex n).1 = decide (hex.length ≤ 2 * n) := by
  unfold hexToBinary
  -- too long: `false` and `¬ ≤`; otherwise `true` and `≤`
  split <;> simp <;> omega

theorem isValid_mk (t s : Bytes) (fl : UInt8) (r : Bool) (ts : TraceState.Entries) :
    SpanCtx.isValid { traceId := t, spanId := s, flags := fl, remote := r, traceState := ts } = !(allZero t || allZero s) := by
  simp [SpanCtx.isValid]

/-- **B3 extraction never reads out of bounds** (no `oob`, no `ub`, no exhausted loop bound) for *any* four byte
    strings, and is the list function `b3Pure` -/
theorem b3_extract_eq (b3 tid sid smp : Bytes) : B3.extract b3 tid sid smp = .ok (b3Pure b3 tid sid smp) := by
  obtain ⟨_, _, _, hTid, hSid⟩ := gen_b3_split
  unfold B3.extract B3.extractImpl b3Pure
  rw [b3_fields_eq, IxRes.bind_ok, hTid, hSid]
  cases b3Fields b3 tid sid smp with
  | none => rfl
  | some p =>
    obtain ⟨th, sh, fh⟩ := p
    by_cases hv : isValidHex th = true ∧ isValidHex sh = true
    · simp only [hv.1, hv.2, Bool.not_true, Bool.or_false, Bool.false_eq_true, if_false, Nat.reduceDiv,
        Idx.hexToBinary_eq th 16 hv.1, Idx.hexToBinary_eq sh 8 hv.2, IxRes.bind_ok, Bool.and_self, if_true, traceFlagsFromHex_eq]
      cases hz : allZero (hexToBinary th 16).2 || allZero (hexToBinary sh 8).2 <;>
        simp [Option.filter, isValid_mk, hz]
    · have hv' : (isValidHex th && isValidHex sh) = false := by simpa using hv
      have : (!isValidHex th || !isValidHex sh) = true := by rw [← Bool.not_and, hv']; rfl
      simp [this, hv']

/-- **Jaeger extraction never reads out of bounds** for any byte string, and is the list function `jaegerPure` -/
theorem jaeger_extract_eq (h : Bytes) : Jaeger.extract h = .ok (jaegerPure h) := by
  obtain ⟨g1, g2, g3, _⟩ := gen_jaeger
  unfold Jaeger.extract Jaeger.extractImpl jaegerPure Jaeger.getTraceFlags
  rw [g1, g2, g3, Idx.splitString_eq, IxRes.bind_ok]
  generalize splitString 58 4 h = fs
  by_cases hlen : fs.length = 4
  · simp only [hlen, ne_eq, not_true, if_false, if_true]
    generalize fs.getD 0 [] = th
    generalize fs.getD 1 [] = sh
    generalize fs.getD 3 [] = fh
    unfold jaegerOf idCtx
    by_cases hv : isValidHex th = true ∧ isValidHex sh = true ∧ isValidHex fh = true
    · obtain ⟨v1, v2, v3⟩ := hv
      simp only [v1, v2, v3, Bool.not_true, Bool.or_false, Bool.false_eq_true, if_false, Bool.and_self, Bool.true_and,
        Idx.hexToBinary_eq th 16 v1, Idx.hexToBinary_eq sh 8 v2, Idx.hexToBinary_eq fh 1 v3, IxRes.bind_ok, hexToBinary_fst]
      -- both sides now test the three lengths; the flags buffer is one byte
      by_cases l1 : th.length ≤ 32
      · by_cases l2 : sh.length ≤ 16
        · by_cases lf : fh.length ≤ 2
          · obtain ⟨x, hx⟩ := List.length_eq_one_iff.1 (hexToBinary_length fh 1)
            cases hz : allZero (hexToBinary th 16).2 || allZero (hexToBinary sh 8).2 <;>
              simp [l1, l2, lf, hx, hz, Option.filter, isValid_mk]
          · simp [l1, l2, lf, Option.filter]
        · simp [l1, l2, Option.filter]
      · simp [l1, Option.filter]
    · -- one of the three tests on hex digits fails, on both sides
      have hv' : (isValidHex th && isValidHex sh && isValidHex fh) = false := by simpa [Bool.and_assoc] using hv
      have : (!isValidHex th || !isValidHex sh || !isValidHex fh) = true := by
        rw [← Bool.not_and, ← Bool.not_and, hv']; rfl
      simp [this, Option.filter]
      -- left: the pure side's tests `isValidHex fh → … lengths … → isValidHex th → isValidHex sh → …` cannot all pass
      intro v3 _ _ _ v1 v2
      exact absurd ⟨v1, v2, v3⟩ hv
  · simp [hlen, Option.filter]

def AllHex (s : Bytes) : Prop := ∀ c ∈ s, IsHexChar c

theorem decodeHexAny_length (s : Bytes) : (decodeHexAny s).length = (s.length + 1) / 2 := by
  unfold decodeHexAny
  split
  · rw [decodeHex_length, List.length_cons]
  · rw [decodeHex_length]; omega

/-- `C09.hexToBinary_of_hex` in the vocabulary of this file (`leftPad`, `decodeHexAny`) -/
theorem hexToBinary_hex (s : Bytes) (n : Nat) (hl : s.length ≤ 2 * n) (h : AllHex s) :
    hexToBinary s n = (true, leftPad n (decodeHexAny s)) := by
  rw [hexToBinary_of_hex s n hl h, leftPad, decodeHexAny_length]
  rfl

theorem allZero_replicate (n : Nat) : allZero (List.replicate n 0) = true := by
  simp [allZero]

theorem allZero_leftPad (n : Nat) (v : Bytes) : allZero (leftPad n v) = allZero v := by
  simp [allZero, leftPad]

theorem allZero_leftPad_false (n : Nat) {v : Bytes} (h : NonZero v) : allZero (leftPad n v) = false := by
  rw [allZero_leftPad]; exact (allZero_false_iff v).2 h

theorem leftPad_length (n : Nat) (v : Bytes) (h : v.length ≤ n) : (leftPad n v).length = n := by
  simp [leftPad]; omega

theorem decodeHexAny_lowerHex (bs : Bytes) : decodeHexAny (lowerHex bs) = bs := by
  unfold decodeHexAny
  rw [if_neg (by rw [lowerHex_length]; omega), decodeHex_lowerHex]

theorem injected_id {id : Bytes} {w : Nat} (hz : allZero id = false) (hl : id.length = w) :
    AllHex (lowerHex id) ∧ (lowerHex id).length ≤ 2 * w ∧ NonZero (decodeHexAny (lowerHex id)) ∧
      leftPad w (decodeHexAny (lowerHex id)) = id := by
  refine ⟨lowerHex_hex id, by rw [lowerHex_length, hl]; exact Nat.le_refl _, ?_, ?_⟩
  · rw [decodeHexAny_lowerHex]; exact (allZero_false_iff _).1 hz
  · rw [decodeHexAny_lowerHex, leftPad, hl, Nat.sub_self]; rfl

theorem id_buffer_nonzero {s : Bytes} (w : Nat) (h : AllHex s) :
    allZero (hexToBinary s w).2 = false ↔ s.length ≤ 2 * w ∧ NonZero (decodeHexAny s) := by
  by_cases hl : s.length ≤ 2 * w
  · rw [hexToBinary_hex s w hl h, allZero_leftPad, allZero_false_iff]
    exact ⟨fun n => ⟨hl, n⟩, fun n => n.2⟩
  · rw [hexToBinary_long s w (by omega), allZero_replicate]
    exact ⟨nofun, fun n => absurd n.1 hl⟩

theorem idCtx_eq_some_iff {th sh : Bytes} {f : UInt8} {sc : SpanCtx} : idCtx th sh f = some sc ↔
    AllHex th ∧ AllHex sh ∧ th.length ≤ 32 ∧ sh.length ≤ 16 ∧ NonZero (decodeHexAny th) ∧ NonZero (decodeHexAny sh) ∧
      sc = { traceId := leftPad 16 (decodeHexAny th), spanId := leftPad 8 (decodeHexAny sh), flags := f, remote := true,
             traceState := [] } := by
  simp only [idCtx, Option.ite_none_right_eq_some, Option.ite_none_left_eq_some, Bool.and_eq_true, isValidHex_iff,
    Bool.or_eq_true, not_or, Bool.not_eq_true, Option.some.injEq]
  constructor
  · rintro ⟨⟨ht, hs⟩, ⟨zt, zs⟩, rfl⟩
    obtain ⟨lt, nt⟩ := (id_buffer_nonzero 16 ht).1 zt
    obtain ⟨ls, ns⟩ := (id_buffer_nonzero 8 hs).1 zs
    exact ⟨ht, hs, lt, ls, nt, ns, by rw [hexToBinary_hex th 16 lt ht, hexToBinary_hex sh 8 ls hs]⟩
  · rintro ⟨ht, hs, lt, ls, nt, ns, rfl⟩
    exact ⟨⟨ht, hs⟩, ⟨(id_buffer_nonzero 16 ht).2 ⟨lt, nt⟩, (id_buffer_nonzero 8 hs).2 ⟨ls, ns⟩⟩,
      by rw [hexToBinary_hex th 16 lt ht, hexToBinary_hex sh 8 ls hs]⟩

/-- **The documented ways a B3 carrier presents trace id `th`, span id `sh` and sampling state `fh`** (b3-propagation):
    multi-header `X-B3-TraceId` / `X-B3-SpanId` / `X-B3-Sampled` when there is no `b3` header; otherwise the single
    header `{TraceId}-{SpanId}`, `{TraceId}-{SpanId}-{SamplingState}` or
    `{TraceId}-{SpanId}-{SamplingState}-{ParentSpanId…}` — and then the `X-B3-*` headers do not matter. -/
def B3Presents (b3 tid sid smp th sh fh : Bytes) : Prop :=
  (b3 = [] ∧ th = tid ∧ sh = sid ∧ fh = smp) ∨
  (45 ∉ th ∧ 45 ∉ sh ∧ 45 ∉ fh ∧
    ((b3 = th ++ 45 :: sh ∧ fh = []) ∨ b3 = th ++ 45 :: (sh ++ 45 :: fh) ∨ ∃ r, b3 = th ++ 45 :: (sh ++ 45 :: (fh ++ 45 :: r))))

theorem b3Fields_iff {b3 tid sid smp th sh fh : Bytes} :
    b3Fields b3 tid sid smp = some (th, sh, fh) ↔ B3Presents b3 tid sid smp th sh fh := by
  unfold b3Fields B3Presents
  constructor
  · intro h
    by_cases h0 : b3 = []
    · rw [if_pos h0] at h; cases h
      exact Or.inl ⟨h0, rfl, rfl, rfl⟩
    rw [if_neg h0] at h
    -- one field: refused; two: no sampling state; three: anything after a third separator is cut off
    rcases splitString_cases 45 2 b3 with ⟨_, e⟩ | ⟨a, s1, d1, rfl, e⟩
    · rw [e] at h; cases h
    rcases splitString_cases 45 1 s1 with ⟨d2, e1⟩ | ⟨b, s2, d2, rfl, e1⟩
    · rw [e, e1] at h; cases h
      exact Or.inr ⟨d1, d2, by simp, Or.inl ⟨rfl, rfl⟩⟩
    rcases splitString_cases 45 0 s2 with ⟨d3, e2⟩ | ⟨c, r, d3, rfl, e2⟩
    · rw [e, e1, e2] at h; cases h
      exact Or.inr ⟨d1, d2, d3, Or.inr (Or.inl rfl)⟩
    · rw [e, e1, e2] at h; cases h
      exact Or.inr ⟨d1, d2, d3, Or.inr (Or.inr ⟨r, rfl⟩)⟩
  · rintro (⟨rfl, rfl, rfl, rfl⟩ | ⟨d1, d2, d3, ⟨rfl, rfl⟩ | rfl | ⟨r, rfl⟩⟩)
    · rfl
    · rw [if_neg (by simp), splitString_sep _ _ d1, splitString_no_sep _ d2]; rfl
    · rw [if_neg (by simp), splitString_sep _ _ d1, splitString_sep _ _ d2, splitString_no_sep _ d3]; rfl
    · rw [if_neg (by simp), splitString_sep _ _ d1, splitString_sep _ _ d2, splitString_sep _ _ d3]; rfl

/-- the context B3 extraction must install for hex fields `th`, `sh` and sampling state `fh` -/
def b3Ctx (th sh fh : Bytes) : SpanCtx :=
  { traceId := leftPad 16 (decodeHexAny th), spanId := leftPad 8 (decodeHexAny sh), flags := b3Decision fh, remote := true, traceState := [] }

/-- `b3Pure` spells the body of `idCtx` out after its `match` -/
theorem b3Pure_eq (b3 tid sid smp : Bytes) :
    b3Pure b3 tid sid smp = (b3Fields b3 tid sid smp).bind fun p => idCtx p.1 p.2.1 (b3Decision p.2.2) := by
  unfold b3Pure
  cases b3Fields b3 tid sid smp <;> rfl

/-- **B3 extraction accepts exactly this**: for *every* four byte strings a context is installed iff the carrier
    presents (in one of the documented ways) a trace id of at most 32 and a span id of at most 16 hex digits of either
    case, both denoting non-zero values — and then it is the remote context with exactly those ids, left-padded, and
    the documented sampling decision.  Everything else (odd separators, non-hex, non-ASCII, NUL, over-long or zero ids,
    a single field) returns the caller's context. -/
theorem b3_extract_iff (b3 tid sid smp : Bytes) (sc : SpanCtx) :
    B3.extract b3 tid sid smp = .ok (some sc) ↔
      ∃ th sh fh, B3Presents b3 tid sid smp th sh fh ∧ AllHex th ∧ AllHex sh ∧ th.length ≤ 32 ∧ sh.length ≤ 16 ∧
        NonZero (decodeHexAny th) ∧ NonZero (decodeHexAny sh) ∧ sc = b3Ctx th sh fh := by
  rw [b3_extract_eq, IxRes.ok.injEq, b3Pure_eq, Option.bind_eq_some_iff]
  constructor
  · rintro ⟨⟨th, sh, fh⟩, hf, hc⟩
    obtain ⟨ht, hs, lt, ls, nt, ns, rfl⟩ := idCtx_eq_some_iff.1 hc
    exact ⟨th, sh, fh, b3Fields_iff.1 hf, ht, hs, lt, ls, nt, ns, rfl⟩
  · rintro ⟨th, sh, fh, hp, ht, hs, lt, ls, nt, ns, rfl⟩
    exact ⟨_, b3Fields_iff.2 hp, idCtx_eq_some_iff.2 ⟨ht, hs, lt, ls, nt, ns, rfl⟩⟩

/-- **B3 acceptance**: however the carrier presents them, hex fields of at most 32 / 16 digits (either case, any
    length — shorter ids are left-padded with zeros) denoting non-zero ids are accepted and yield exactly that context -/
theorem b3_accepts {b3 tid sid smp th sh fh : Bytes} (hp : B3Presents b3 tid sid smp th sh fh)
    (ht : AllHex th) (hs : AllHex sh) (lt : th.length ≤ 32) (ls : sh.length ≤ 16)
    (nt : NonZero (decodeHexAny th)) (ns : NonZero (decodeHexAny sh)) :
    B3.extract b3 tid sid smp = .ok (some (b3Ctx th sh fh)) :=
  (b3_extract_iff b3 tid sid smp _).2 ⟨th, sh, fh, hp, ht, hs, lt, ls, nt, ns, rfl⟩

/-- `{trace-id}:{span-id}:{parent-span-id}:{flags}` — anything after a further `:` is cut off -/
def JaegerPresents (h th sh ph fh : Bytes) : Prop :=
  58 ∉ th ∧ 58 ∉ sh ∧ 58 ∉ ph ∧ 58 ∉ fh ∧
    (h = th ++ 58 :: (sh ++ 58 :: (ph ++ 58 :: fh)) ∨ ∃ r, h = th ++ 58 :: (sh ++ 58 :: (ph ++ 58 :: (fh ++ 58 :: r))))

/-- the context Jaeger extraction must install: ids left-padded, sampled = bit 0 of the flags value -/
def jaegerCtx (th sh fh : Bytes) : SpanCtx :=
  { traceId := leftPad 16 (decodeHexAny th), spanId := leftPad 8 (decodeHexAny sh), flags := sampledBit ((decodeHexAny fh).headD 0), remote := true, traceState := [] }

/-- `uint8_t flags` as a one-byte buffer: it starts with the value's first byte, 0 for the empty value -/
theorem headD_leftPad_one (v : Bytes) : (leftPad 1 v).headD 0 = v.headD 0 := by
  cases v with
  | nil => rfl
  | cons x t => rw [leftPad, List.length_cons, Nat.sub_eq_zero_of_le (Nat.le_add_left 1 _)]; rfl

theorem jaegerPresents_iff {h th sh ph fh : Bytes} : JaegerPresents h th sh ph fh ↔ splitString 58 4 h = [th, sh, ph, fh] :=
  splitString4_iff.symm

/-- **Jaeger extraction accepts exactly this**: for every byte string a context is installed iff the header has (at
    least) four `:`-separated fields whose first, second and fourth are hex digits of either case, at most 32 / 16 / 2
    long, the ids non-zero; then it is the remote context with those ids, left-padded, sampled = bit 0 of the flags. -/
theorem jaeger_extract_iff (h : Bytes) (sc : SpanCtx) :
    Jaeger.extract h = .ok (some sc) ↔
      ∃ th sh ph fh, JaegerPresents h th sh ph fh ∧ AllHex th ∧ AllHex sh ∧ AllHex fh ∧ th.length ≤ 32 ∧ sh.length ≤ 16 ∧
        fh.length ≤ 2 ∧ NonZero (decodeHexAny th) ∧ NonZero (decodeHexAny sh) ∧ sc = jaegerCtx th sh fh := by
  rw [jaeger_extract_eq, IxRes.ok.injEq, jaegerPure]
  constructor
  · intro hx
    split at hx
    case isFalse => cases hx
    rename_i hlen
    match hfs : splitString 58 4 h, hlen with
    | [th, sh, ph, fh], _ =>
      simp only [hfs, List.getD_cons_zero, List.getD_cons_succ, jaegerOf, Option.ite_none_right_eq_some, Bool.and_eq_true,
        decide_eq_true_eq, isValidHex_iff] at hx
      obtain ⟨⟨⟨⟨hf, _⟩, _⟩, lf⟩, hc⟩ := hx
      obtain ⟨ht, hs, lt, ls, nt, ns, rfl⟩ := idCtx_eq_some_iff.1 hc
      exact ⟨th, sh, ph, fh, jaegerPresents_iff.2 hfs, ht, hs, hf, lt, ls, lf, nt, ns,
        by rw [hexToBinary_hex fh 1 lf hf, headD_leftPad_one, and_one_eq_sampledBit]; rfl⟩
  · rintro ⟨th, sh, ph, fh, hp, ht, hs, hf, lt, ls, lf, nt, ns, rfl⟩
    simp only [jaegerPresents_iff.1 hp, List.length_cons, List.length_nil, if_true, List.getD_cons_zero, List.getD_cons_succ,
      jaegerOf, (isValidHex_iff fh).2 hf, lt, ls, lf, decide_true, Bool.and_self, hexToBinary_hex fh 1 lf hf,
      headD_leftPad_one, and_one_eq_sampledBit]
    exact idCtx_eq_some_iff.2 ⟨ht, hs, lt, ls, nt, ns, rfl⟩

/-- **Jaeger acceptance**: four fields, hex ids of at most 32 / 16 digits denoting non-zero ids, hex flags of at most
    two digits (an empty flags field counts as 0) are accepted and yield exactly that context -/
theorem jaeger_accepts {h th sh ph fh : Bytes} (hp : JaegerPresents h th sh ph fh)
    (ht : AllHex th) (hs : AllHex sh) (hf : AllHex fh) (lt : th.length ≤ 32) (ls : sh.length ≤ 16) (lf : fh.length ≤ 2)
    (nt : NonZero (decodeHexAny th)) (ns : NonZero (decodeHexAny sh)) :
    Jaeger.extract h = .ok (some (jaegerCtx th sh fh)) :=
  (jaeger_extract_iff h _).2 ⟨th, sh, ph, fh, hp, ht, hs, hf, lt, ls, lf, nt, ns, rfl⟩

theorem b3_accepts_injected {sc : SpanCtx} (hv : sc.isValid = true) (ht : sc.traceId.length = 16) (hs : sc.spanId.length = 8)
    {b3 tid sid smp fh : Bytes} (hp : B3Presents b3 tid sid smp (lowerHex sc.traceId) (lowerHex sc.spanId) fh) :
    B3.extract b3 tid sid smp = .ok (some { remoteOf sc with flags := b3Decision fh }) := by
  simp only [SpanCtx.isValid, Bool.and_eq_true, Bool.not_eq_true'] at hv
  obtain ⟨at', lt', nt, et⟩ := injected_id hv.1 ht
  obtain ⟨as', ls', ns, es⟩ := injected_id hv.2 hs
  rw [b3_accepts hp (ht := at') (hs := as') (lt := lt') (ls := ls') (nt := nt) (ns := ns), b3Ctx, et, es]
  rfl

/-- **B3 single header round trip**, for every valid span context and **every** flags byte: the `b3` header is
    `<32 lower-case hex>-<16 lower-case hex>-<1|0>` (51 bytes) and extraction — whatever the `X-B3-*` headers hold —
    installs the remote context with the same trace id, the same span id and the same sampled decision. -/
theorem b3single_roundtrip (sc : SpanCtx) (hv : sc.isValid = true) (ht : sc.traceId.length = 16) (hs : sc.spanId.length = 8)
    (tid sid smp : Bytes) :
    ∃ h, B3.injectSingle sc = some h ∧
      h = lowerHex sc.traceId ++ [45] ++ lowerHex sc.spanId ++ [45] ++ [if Sampled sc.flags then 49 else 48] ∧
      h.length = 51 ∧
      B3.extract h tid sid smp = .ok (some (remoteOf sc)) := by
  obtain ⟨g8, g9, g10⟩ := gen_b3_inject
  refine ⟨_, ?_, rfl, ?_, ?_⟩
  · simp only [B3.injectSingle, hv, Bool.not_true, Bool.false_eq_true, if_false, g8, g9, g10, traceIdToHex_eq, spanIdToHex_eq,
      List.getD_cons_zero, List.getD_cons_succ, isSampled_eq, decide_eq_true_eq]
  · simp [lowerHex_length, ht, hs]
  · rw [b3_accepts_injected hv ht hs (fh := [if Sampled sc.flags then 49 else 48])
      (Or.inr ⟨not_dash_of_hex _ (lowerHex_hex _), not_dash_of_hex _ (lowerHex_hex _), by split <;> decide,
        Or.inr (Or.inl (by simp))⟩), b3Decision_digit]
    rfl

/-- **B3 multi-header round trip**, for every valid span context and **every** flags byte: `X-B3-TraceId` /
    `X-B3-SpanId` are the lower-case hex ids, `X-B3-Sampled` is `1` or `0` — the sampling decision, not a digit of the
    flags byte (D05) — and extraction (no `b3` header present) installs the remote context with the same ids and the
    same sampled decision. -/
theorem b3multi_roundtrip (sc : SpanCtx) (hv : sc.isValid = true) (ht : sc.traceId.length = 16) (hs : sc.spanId.length = 8) :
    ∃ t s f, B3.injectMulti sc = some (t, s, f) ∧
      t = lowerHex sc.traceId ∧ s = lowerHex sc.spanId ∧ f = [if Sampled sc.flags then 49 else 48] ∧
      B3.extract [] t s f = .ok (some (remoteOf sc)) := by
  refine ⟨_, _, _, ?_, rfl, rfl, rfl, ?_⟩
  · simp only [B3.injectMulti, B3.injectMultiWith, gen_b3_multi_fixed, hv, Bool.not_true, Bool.false_eq_true, if_false,
      traceIdToHex_eq, spanIdToHex_eq, fixed_multi_sampled_val]
  · rw [b3_accepts_injected hv ht hs (Or.inl ⟨rfl, rfl, rfl, rfl⟩), b3Decision_digit]
    rfl

/-- D05 in the model of the code **before** the fix: for a sampled context whose flags byte has another low-nibble
    bit set (here `0x03`, sampled + random) the multi-header round trip reports "not sampled". -/
theorem b3multi_roundtrip_asis_witness :
    let sc : SpanCtx := { traceId := [0,0,0,0,0,0,0,0,0,0,0,0,0,0,0,1], spanId := [0,0,0,0,0,0,0,1], flags := 3, remote := false, traceState := [] }
    (B3.injectMultiWith false sc).map (fun p => p.2.2) = some [51] ∧
    (B3.injectMultiWith false sc).map (fun p => (b3Pure [] p.1 p.2.1 p.2.2).map (·.flags)) = some (some 0) ∧
    sampledBit sc.flags = 1 := by decide +kernel

/-- … and the as-is code round-trips on every flags byte for which `asis_multi_sampled_right_iff` says the digit reads back right -/
theorem b3multi_roundtrip_asis_partial (sc : SpanCtx) (hv : sc.isValid = true) (ht : sc.traceId.length = 16)
    (hs : sc.spanId.length = 8) (hf : ¬ (sc.flags &&& 1 = 1 ∧ sc.flags &&& 0xF ≠ 1 ∧ sc.flags &&& 0xF ≠ 0xD)) :
    ∃ t s f, B3.injectMultiWith false sc = some (t, s, f) ∧ B3.extract [] t s f = .ok (some (remoteOf sc)) := by
  refine ⟨lowerHex sc.traceId, lowerHex sc.spanId, B3.multiSampled false sc.flags, ?_, ?_⟩
  · simp only [B3.injectMultiWith, hv, Bool.not_true, Bool.false_eq_true, if_false, traceIdToHex_eq, spanIdToHex_eq]
  · rw [b3_accepts_injected hv ht hs (Or.inl ⟨rfl, rfl, rfl, rfl⟩), (asis_multi_sampled_right_iff sc.flags).2 hf]
    rfl

theorem jaeger_flags_field (p : Prop) [Decidable p] :
    AllHex [48, if p then 49 else 48] ∧ (58 : UInt8) ∉ [48, if p then (49 : UInt8) else 48] ∧
      sampledBit ((decodeHexAny [48, if p then 49 else 48]).headD 0) = if p then 1 else 0 := by
  unfold AllHex
  split <;> decide

/-- **Jaeger round trip**, for every valid span context and **every** flags byte: `uber-trace-id` is
    `<32 lower-case hex>:<16 lower-case hex>:0:0<1|0>` (54 bytes) and extraction installs the remote context with the
    same trace id, span id and sampled decision. -/
theorem jaeger_roundtrip (sc : SpanCtx) (hv : sc.isValid = true) (ht : sc.traceId.length = 16) (hs : sc.spanId.length = 8) :
    ∃ h, Jaeger.inject sc = some h ∧
      h = lowerHex sc.traceId ++ [58] ++ lowerHex sc.spanId ++ [58, 48, 58, 48] ++ [if Sampled sc.flags then 49 else 48] ∧
      h.length = 54 ∧
      Jaeger.extract h = .ok (some (remoteOf sc)) := by
  obtain ⟨_, _, _, g4, g5, g6, _⟩ := gen_jaeger
  refine ⟨_, ?_, rfl, ?_, ?_⟩
  · simp only [Jaeger.inject, hv, Bool.not_true, Bool.false_eq_true, if_false, g4, g5, g6, traceIdToHex_eq, spanIdToHex_eq,
      List.getD_cons_zero, List.drop_succ_cons, List.drop_zero, isSampled_eq, decide_eq_true_eq]
  · simp [lowerHex_length, ht, hs]
  · have hv' := hv
    simp only [SpanCtx.isValid, Bool.and_eq_true, Bool.not_eq_true'] at hv'
    obtain ⟨at', lt', nt, et⟩ := injected_id hv'.1 ht
    obtain ⟨as', ls', ns, es⟩ := injected_id hv'.2 hs
    obtain ⟨hfh, cf, hbit⟩ := jaeger_flags_field (Sampled sc.flags)
    rw [jaeger_accepts (ph := [48])
      ⟨not_mem_of_hex (by decide) _ at', not_mem_of_hex (by decide) _ as', by decide, cf, Or.inl (by simp)⟩
      (ht := at') (hs := as') (hf := hfh) (lt := lt') (ls := ls') (lf := Nat.le_refl 2) (nt := nt) (ns := ns),
      jaegerCtx, et, es, hbit]
    rfl

theorem decodeHexAny_even {s : Bytes} (h : s.length % 2 = 0) : decodeHexAny s = decodeHex s := by
  unfold decodeHexAny; rw [if_neg (by omega)]

theorem leftPad_decodeHexAny_even (n : Nat) {s : Bytes} (h : s.length % 2 = 0) :
    leftPad n (decodeHexAny s) = List.replicate (n - s.length / 2) 0 ++ decodeHex s := by
  rw [decodeHexAny_even h, leftPad, decodeHex_length]

/-- **64-bit trace ids are left-padded with zeros**: a 16-digit `TraceId` (however the carrier presents it) yields the
    128-bit id whose upper eight bytes are zero and whose lower eight bytes are the value given. -/
theorem b3_64bit_id_left_padded {b3 tid sid smp th sh fh : Bytes} (hp : B3Presents b3 tid sid smp th sh fh)
    (ht : AllHex th) (hs : AllHex sh) (lt : th.length = 16) (ls : sh.length = 16)
    (nt : NonZero (decodeHex th)) (ns : NonZero (decodeHex sh)) :
    B3.extract b3 tid sid smp = .ok (some { traceId := List.replicate 8 0 ++ decodeHex th, spanId := decodeHex sh, flags := b3Decision fh, remote := true, traceState := [] }) := by
  have et : th.length % 2 = 0 := by rw [lt]
  have es : sh.length % 2 = 0 := by rw [ls]
  rw [b3_accepts hp ht hs (lt := by omega) (ls := by omega) (nt := decodeHexAny_even et ▸ nt) (ns := decodeHexAny_even es ▸ ns), b3Ctx,
    leftPad_decodeHexAny_even 16 et, leftPad_decodeHexAny_even 8 es, lt, ls]
  rfl

/-- the same for Jaeger (`uber-trace-id` with a 16-digit trace id) -/
theorem jaeger_64bit_id_left_padded {h th sh ph fh : Bytes} (hp : JaegerPresents h th sh ph fh)
    (ht : AllHex th) (hs : AllHex sh) (hf : AllHex fh) (lt : th.length = 16) (ls : sh.length = 16) (lf : fh.length ≤ 2)
    (nt : NonZero (decodeHex th)) (ns : NonZero (decodeHex sh)) :
    Jaeger.extract h = .ok (some { traceId := List.replicate 8 0 ++ decodeHex th, spanId := decodeHex sh, flags := sampledBit ((decodeHexAny fh).headD 0), remote := true, traceState := [] }) := by
  have et : th.length % 2 = 0 := by rw [lt]
  have es : sh.length % 2 = 0 := by rw [ls]
  rw [jaeger_accepts hp ht hs hf (lt := by omega) (ls := by omega) (lf := lf) (nt := decodeHexAny_even et ▸ nt)
      (ns := decodeHexAny_even es ▸ ns), jaegerCtx,
    leftPad_decodeHexAny_even 16 et, leftPad_decodeHexAny_even 8 es, lt, ls]
  rfl

/-- **the sampling decision B3 extraction reports**, for every sampling-state field: sampled iff the field is `1` or
    the debug flag `d`; in particular `0`, an absent field and any other bytes are "not sampled" -/
theorem b3_sampling_decision (fh : Bytes) :
    (b3Decision fh = 1 ↔ (fh = [49] ∨ fh = [100])) ∧ (b3Decision fh = 0 ↔ ¬ (fh = [49] ∨ fh = [100])) := by
  unfold b3Decision
  by_cases h : fh = [49] ∨ fh = [100] <;> simp [h]

/-- **the debug flag `d` counts as sampled** -/
theorem b3_debug_is_sampled {b3 tid sid smp th sh : Bytes} (hp : B3Presents b3 tid sid smp th sh [100])
    (ht : AllHex th) (hs : AllHex sh) (lt : th.length ≤ 32) (ls : sh.length ≤ 16)
    (nt : NonZero (decodeHexAny th)) (ns : NonZero (decodeHexAny sh)) :
    ∃ sc, B3.extract b3 tid sid smp = .ok (some sc) ∧ sc.flags = 1 ∧ Sampled sc.flags :=
  ⟨_, b3_accepts hp ht hs lt ls nt ns, rfl, by show Sampled (1 : UInt8); decide⟩

/-- **a missing sampling field means not sampled** — the two-field single header `{TraceId}-{SpanId}` as well as an
    absent / empty `X-B3-Sampled` -/
theorem b3_missing_sampling_unsampled {b3 tid sid smp th sh : Bytes} (hp : B3Presents b3 tid sid smp th sh [])
    (ht : AllHex th) (hs : AllHex sh) (lt : th.length ≤ 32) (ls : sh.length ≤ 16)
    (nt : NonZero (decodeHexAny th)) (ns : NonZero (decodeHexAny sh)) :
    ∃ sc, B3.extract b3 tid sid smp = .ok (some sc) ∧ sc.flags = 0 ∧ ¬ Sampled sc.flags :=
  ⟨_, b3_accepts hp ht hs lt ls nt ns, rfl, by show ¬ Sampled (0 : UInt8); decide⟩

/-- the two-field single header is such a presentation … -/
theorem b3_two_field_header_presents (th sh tid sid smp : Bytes) (h1 : AllHex th) (h2 : AllHex sh) :
    B3Presents (th ++ 45 :: sh) tid sid smp th sh [] :=
  Or.inr ⟨not_dash_of_hex _ h1, not_dash_of_hex _ h2, by simp, Or.inl ⟨rfl, rfl⟩⟩

/-- … and so are multi headers without `X-B3-Sampled` -/
theorem b3_multi_without_sampled_presents (th sh : Bytes) : B3Presents [] th sh [] th sh [] := Or.inl ⟨rfl, rfl, rfl, rfl⟩

/-- Jaeger: **an empty flags field means not sampled** (`{trace-id}:{span-id}:{parent}:`), and in general the decision
    is bit 0 of the flags value, whatever the other bits (debug, firehose) are -/
theorem jaeger_missing_flags_unsampled {h th sh ph : Bytes} (hp : JaegerPresents h th sh ph [])
    (ht : AllHex th) (hs : AllHex sh) (lt : th.length ≤ 32) (ls : sh.length ≤ 16)
    (nt : NonZero (decodeHexAny th)) (ns : NonZero (decodeHexAny sh)) :
    ∃ sc, Jaeger.extract h = .ok (some sc) ∧ sc.flags = 0 ∧ ¬ Sampled sc.flags :=
  ⟨_, jaeger_accepts hp ht hs (hf := fun _ hc => nomatch hc) lt ls (lf := Nat.zero_le 2) nt ns, rfl, by show ¬ Sampled (0 : UInt8); decide⟩

theorem jaeger_sampling_decision (th sh fh : Bytes) :
    ((jaegerCtx th sh fh).flags = 1 ↔ Sampled ((decodeHexAny fh).headD 0)) ∧
    ((jaegerCtx th sh fh).flags = 0 ↔ ¬ Sampled ((decodeHexAny fh).headD 0)) := by
  show (sampledBit _ = 1 ↔ _) ∧ (sampledBit _ = 0 ↔ _)
  unfold sampledBit
  by_cases h : Sampled ((decodeHexAny fh).headD 0) <;> simp [h]

/-- **a non-empty `b3` header takes precedence over the `X-B3-*` headers**: they are not even looked at -/
theorem b3_single_precedes_multi (b3 : Bytes) (hne : b3 ≠ []) (tid sid smp tid' sid' smp' : Bytes) :
    B3.extract b3 tid sid smp = B3.extract b3 tid' sid' smp' := by
  rw [b3_extract_eq, b3_extract_eq]
  unfold b3Pure b3Fields
  rw [if_neg hne, if_neg hne]

/-- **never reads out of bounds** — B3: for every four byte strings the index-explicit model returns a proper result:
    no access outside a buffer, no `substr` beyond the end, no shift of a negative digit value, no loop overrun -/
theorem b3_never_oob (b3 tid sid smp : Bytes) : ∃ r, B3.extract b3 tid sid smp = .ok r := ⟨_, b3_extract_eq _ _ _ _⟩

/-- **never reads out of bounds** — Jaeger: the same for every `uber-trace-id` byte string -/
theorem jaeger_never_oob (h : Bytes) : ∃ r, Jaeger.extract h = .ok r := ⟨_, jaeger_extract_eq h⟩

/-- what "a context with non-zero ids" means for the installed remote context -/
def Installable (sc : SpanCtx) : Prop :=
  NonZero sc.traceId ∧ NonZero sc.spanId ∧ sc.traceId.length = 16 ∧ sc.spanId.length = 8 ∧ sc.remote = true ∧
  (sc.flags = 0 ∨ sc.flags = 1) ∧ sc.traceState = [] ∧ sc.isValid = true

/-- the contexts of `b3_extract_iff` / `jaeger_extract_iff` (they differ in the flags only) are installable -/
theorem installable_ctx {th sh : Bytes} {f : UInt8} (hf : f = 0 ∨ f = 1) (lt : th.length ≤ 32) (ls : sh.length ≤ 16)
    (nt : NonZero (decodeHexAny th)) (ns : NonZero (decodeHexAny sh)) :
    Installable { traceId := leftPad 16 (decodeHexAny th), spanId := leftPad 8 (decodeHexAny sh), flags := f, remote := true,
                  traceState := [] } := by
  have z1 := allZero_leftPad_false 16 nt
  have z2 := allZero_leftPad_false 8 ns
  exact ⟨(allZero_false_iff _).1 z1, (allZero_false_iff _).1 z2,
    leftPad_length _ _ (by rw [decodeHexAny_length]; omega), leftPad_length _ _ (by rw [decodeHexAny_length]; omega),
    rfl, hf, rfl, by rw [isValid_mk, z1, z2]; rfl⟩

/-- **B3, arbitrary bytes**: either the caller's context is returned unchanged (`ok none`) or a context with non-zero
    16-byte / 8-byte ids is installed -/
theorem b3_extract_valid_or_unchanged (b3 tid sid smp : Bytes) :
    B3.extract b3 tid sid smp = .ok none ∨ ∃ sc, B3.extract b3 tid sid smp = .ok (some sc) ∧ Installable sc := by
  obtain ⟨_ | sc, h⟩ := b3_never_oob b3 tid sid smp
  · exact Or.inl h
  · obtain ⟨th, sh, fh, _, _, _, lt, ls, nt, ns, rfl⟩ := (b3_extract_iff b3 tid sid smp sc).1 h
    refine Or.inr ⟨_, h, installable_ctx ?_ lt ls nt ns⟩
    unfold b3Decision; split <;> simp

/-- **Jaeger, arbitrary bytes**: the caller's context unchanged, or a context with non-zero 16-byte / 8-byte ids -/
theorem jaeger_extract_valid_or_unchanged (h : Bytes) :
    Jaeger.extract h = .ok none ∨ ∃ sc, Jaeger.extract h = .ok (some sc) ∧ Installable sc := by
  obtain ⟨_ | sc, hx⟩ := jaeger_never_oob h
  · exact Or.inl hx
  · obtain ⟨th, sh, _, fh, _, _, _, _, lt, ls, _, nt, ns, rfl⟩ := (jaeger_extract_iff h sc).1 hx
    refine Or.inr ⟨_, hx, installable_ctx ?_ lt ls nt ns⟩
    unfold sampledBit; split <;> simp

/-- **never reads out of bounds**: both extractors, for every input -/
theorem never_oob : (∀ b3 tid sid smp : Bytes, ∃ r, B3.extract b3 tid sid smp = .ok r) ∧ (∀ h : Bytes, ∃ r, Jaeger.extract h = .ok r) :=
  ⟨b3_never_oob, jaeger_never_oob⟩

/-- **for arbitrary bytes: a context with non-zero ids, or the caller's context unchanged** (both extractors) -/
theorem extract_valid_or_unchanged :
    (∀ b3 tid sid smp : Bytes, B3.extract b3 tid sid smp = .ok none ∨ ∃ sc, B3.extract b3 tid sid smp = .ok (some sc) ∧ Installable sc) ∧
    (∀ h : Bytes, Jaeger.extract h = .ok none ∨ ∃ sc, Jaeger.extract h = .ok (some sc) ∧ Installable sc) :=
  ⟨b3_extract_valid_or_unchanged, jaeger_extract_valid_or_unchanged⟩

/-! The hypotheses are met by concrete contexts / headers. -/

def exampleCtx : SpanCtx :=
  { traceId := [0x80,0xf1,0x98,0xee,0x56,0x34,0x3b,0xa8,0x64,0xfe,0x8b,0x2a,0x57,0xd3,0xef,0xf7], spanId := [0xe4,0x57,0xb5,0xa2,0xe4,0xd8,0x6b,0xd1], flags := 0xAB, remote := false, traceState := [] }

example : exampleCtx.isValid = true ∧ exampleCtx.traceId.length = 16 ∧ exampleCtx.spanId.length = 8 ∧ Sampled exampleCtx.flags := by decide
example : (B3.injectSingle exampleCtx).map (·.length) = some 51 := by decide
example : (B3.injectSingle exampleCtx).map (fun h => B3.extract h [] [] []) = some (.ok (some (remoteOf exampleCtx))) := by
  obtain ⟨h, hi, _, _, he⟩ := b3single_roundtrip exampleCtx (by decide) rfl rfl [] [] []
  rw [hi]; exact congrArg some he
example : (B3.injectMultiWith true exampleCtx).map (fun p => B3.extract [] p.1 p.2.1 p.2.2) = some (.ok (some (remoteOf exampleCtx))) := by
  obtain ⟨t, s, f, hi, _, _, _, he⟩ := b3multi_roundtrip exampleCtx (by decide) rfl rfl
  rw [B3.injectMulti, gen_b3_multi_fixed] at hi
  rw [hi]; exact congrArg some he
example : (Jaeger.inject exampleCtx).map Jaeger.extract = some (.ok (some (remoteOf exampleCtx))) := by
  obtain ⟨h, hi, _, _, he⟩ := jaeger_roundtrip exampleCtx (by decide) rfl rfl
  rw [hi]; exact congrArg some he
-- a 64-bit trace id, debug flag, parent span id present: `463ac35c9f6413ad-0020000000000001-d-00000000000000aa`
example : B3Presents ([52,54,51,97,99,51,53,99,57,102,54,52,49,51,97,100] ++ 45 :: ([48,48,50,48,48,48,48,48,48,48,48,48,48,48,48,49] ++ 45 :: ([100] ++ 45 :: [48,48,48,48,48,48,48,48,48,48,48,48,48,48,97,97])))
    [] [] [] [52,54,51,97,99,51,53,99,57,102,54,52,49,51,97,100] [48,48,50,48,48,48,48,48,48,48,48,48,48,48,48,49] [100] :=
  Or.inr ⟨by decide, by decide, by decide, Or.inr (Or.inr ⟨_, rfl⟩)⟩
example : AllHex [52,54,51,97,99,51,53,99,57,102,54,52,49,51,97,100] ∧ NonZero (decodeHex [52,54,51,97,99,51,53,99,57,102,54,52,49,51,97,100]) :=
  ⟨by unfold AllHex; decide, ⟨0x46, by decide, by decide⟩⟩
-- junk is left alone without a fault: NUL, non-ASCII, extra separators, over-long hex
example : B3.extract [0, 45, 255, 45, 45] [] [] [] = .ok none := by decide +kernel
example : Jaeger.extract [58, 58, 58, 58, 58] = .ok none := by decide +kernel

/-- **an invalid span context is never injected**, by none of the three propagators -/
theorem invalid_never_injected (sc : SpanCtx) (h : sc.isValid = false) :
    B3.injectSingle sc = none ∧ B3.injectMulti sc = none ∧ Jaeger.inject sc = none := by
  simp [B3.injectSingle, B3.injectMulti, B3.injectMultiWith, Jaeger.inject, h]

/-- … in particular the all-zero context `GetSpan` hands out for a context that holds no span (or a value of another
    type under the span key) -/
theorem no_span_never_injected (fl : UInt8) (remote : Bool) :
    let sc : SpanCtx := { traceId := List.replicate 16 0, spanId := List.replicate 8 0, flags := fl, remote := remote, traceState := [] }
    B3.injectSingle sc = none ∧ B3.injectMulti sc = none ∧ Jaeger.inject sc = none := by
  intro sc
  exact invalid_never_injected sc (by simp only [sc, SpanCtx.isValid]; rw [allZero_replicate 16]; rfl)

/-- the index-explicit `HexToBinary` on text longer than the buffer (what `TraceIdFromHex` / `SpanIdFromHex` hand it when called
    directly on over-long text): it returns false over the zeroed buffer, i.e. the invalid id -/
theorem idFromHex_overlong_invalid (s : Bytes) (n : Nat) (hl : s.length > 2 * n) :
    Idx.hexToBinary s n = .ok (false, List.replicate n 0) ∧ allZero (List.replicate n 0) = true := by
  refine ⟨?_, allZero_replicate n⟩
  unfold Idx.hexToBinary
  rw [if_pos (by omega)]

end Otel.C16
