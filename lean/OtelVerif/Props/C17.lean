import OtelVerif.Model.Metrics.Async
import OtelVerif.Props.C06
/-! # C17 — gauges report the latest value; observables are read once per collection

Theorems about `Model/Metrics/Async.lean`.  Histories are lists of operations, most recent first (as in C06).
The observable-counter clauses are obtained by a refinement: under the stated hypothesis (D21) an
`AsyncMetricStorage` behaves exactly like the `SyncMetricStorage` of C06 fed with the differences of successive
observations, so C06's theorems apply and the differences telescope. -/
namespace Otel.C17
open Otel.Temporal Otel.C06

/-! ## ObservableRegistry: each callback once per collection; removed / destroyed never again -/

inductive ROp
  | add (cb i : Nat)
  | remove (cb i : Nat)
  | cleanup (i : Nat)

def rstep (g : Registry) : ROp → Registry
  | .add cb i => addCallback g cb i
  | .remove cb i => removeCallback g cb i
  | .cleanup i => cleanupCallback g i

/-- registry after a history (most recent operation first) -/
def rrunRev : List ROp → Registry
  | [] => []
  | op :: o => rstep (rrunRev o) op

/-- **Specification**: how many times is the record (callback `cb`, instrument `i`) registered after a history:
    `AddCallback` adds one registration, `RemoveCallback` of the pair and destruction of the instrument end all. -/
def regCount (cb i : Nat) : List ROp → Nat
  | [] => 0
  | .add cb' i' :: o => regCount cb i o + (if cb' = cb ∧ i' = i then 1 else 0)
  | .remove cb' i' :: o => if cb' = cb ∧ i' = i then 0 else regCount cb i o
  | .cleanup i' :: o => if i' = i then 0 else regCount cb i o

/-- `RemoveCallback` and `CleanupCallback` are filters: a record keeps all its registrations or loses all of them -/
theorem count_filter (g : Registry) (x : Reg) (p : Reg → Bool) :
    (g.filter p).count x = if p x then g.count x else 0 := by
  split
  · next h => exact List.count_filter h
  · next h => exact List.count_eq_zero.mpr fun hm => h (List.mem_filter.mp hm).2

/-- after every history of `AddCallback` / `RemoveCallback` / instrument destruction, one
    `Observe` invokes the record (cb, i) exactly as many times as it is registered. -/
theorem invocations_count (cb i : Nat) : ∀ h : List ROp, (invocations (rrunRev h)).count ⟨cb, i⟩ = regCount cb i h := by
  intro h
  induction h with
  | nil => rfl
  | cons op o ih =>
    have ih : (rrunRev o).count ⟨cb, i⟩ = regCount cb i o := ih
    cases op with
    | add cb' i' =>
      simp only [invocations, rrunRev, rstep, addCallback, regCount, List.count_append, List.count_singleton,
        beq_iff_eq, Reg.mk.injEq, ih]
    | remove cb' i' =>
      simp only [invocations, rrunRev, rstep, removeCallback, regCount, count_filter, ih]
      by_cases hc : cb' = cb ∧ i' = i
      · simp [hc]
      · have : ¬ (cb = cb' ∧ i = i') := fun h => hc ⟨h.1.symm, h.2.symm⟩
        simp [hc, this]
    | cleanup i' =>
      simp only [invocations, rrunRev, rstep, cleanupCallback, regCount, count_filter, ih]
      by_cases hc : i' = i
      · simp [hc]
      · simp [hc, Ne.symm hc]

/-- a callback registered once on an instrument is invoked exactly once by a
    collection -/
theorem registered_once_invoked_once (cb i : Nat) (h : List ROp) (h1 : regCount cb i h = 1) :
    (invocations (rrunRev h)).count ⟨cb, i⟩ = 1 := by rw [invocations_count, h1]

def NoAdd (cb i : Nat) (l : List ROp) : Prop := ∀ op ∈ l, op ≠ ROp.add cb i
def NoAddOn (i : Nat) (l : List ROp) : Prop := ∀ op ∈ l, ∀ cb, op ≠ ROp.add cb i

/-- a record that is not registered stays uninvoked until it is added again -/
theorem never_invoked_of_noAdd (cb i : Nat) (rest : List ROp) (h0 : regCount cb i rest = 0) :
    ∀ l : List ROp, NoAdd cb i l → (⟨cb, i⟩ : Reg) ∉ invocations (rrunRev (l ++ rest)) := by
  suffices h : ∀ l : List ROp, NoAdd cb i l → regCount cb i (l ++ rest) = 0 from
    fun l hl => List.count_eq_zero.mp ((invocations_count cb i _).trans (h l hl))
  intro l
  induction l with
  | nil => exact fun _ => h0
  | cons op l ih =>
    intro h
    have ih := ih (fun x hx => h x (List.mem_cons_of_mem _ hx))
    cases op with
    | add cb' i' =>
      have : ¬ (cb' = cb ∧ i' = i) := by rintro ⟨rfl, rfl⟩; exact h _ (List.mem_cons_self ..) rfl
      simp only [List.cons_append, regCount, ih, this, if_false]
    | remove cb' i' => simp only [List.cons_append, regCount, ih, ite_self]
    | cleanup i' => simp only [List.cons_append, regCount, ih, ite_self]

/-- after `RemoveCallback(cb, i)`, and as long as the pair is not registered again, no
    collection invokes it, whatever else happens to the registry. -/
theorem removed_never_invoked (cb i : Nat) (earlier later : List ROp) (hl : NoAdd cb i later) :
    (⟨cb, i⟩ : Reg) ∉ invocations (rrunRev (later ++ .remove cb i :: earlier)) :=
  never_invoked_of_noAdd cb i _ (by simp only [regCount, and_self, if_true]) later hl

/-- after the instrument is destroyed (`CleanupCallback`), no callback that
    was registered on it is invoked by any later collection. -/
theorem destroyed_instrument_never_invoked (cb i : Nat) (earlier later : List ROp) (hl : NoAddOn i later) :
    (⟨cb, i⟩ : Reg) ∉ invocations (rrunRev (later ++ .cleanup i :: earlier)) :=
  never_invoked_of_noAdd cb i _ (by simp only [regCount, if_true]) later (fun op hop => hl op hop cb)

/-! ### the meter's registry is the registry of its registry operations, and a collection invokes exactly it -/

def regOps : List AOp → List ROp
  | [] => []
  | .addcb i cb :: o => .add cb i :: regOps o
  | .rmcb i cb :: o => .remove cb i :: regOps o
  | .destroy i :: o => .cleanup i :: regOps o
  | .create _ :: o => regOps o
  | .grec _ _ _ :: o => regOps o
  | .collect _ _ :: o => regOps o

/-- the body of the loop in `observe` -/
def observeOne (script : Script) (m : AMeter) (inv : Reg) : AMeter :=
  let ms := measurements (script inv.cb)
  match m.kinds[inv.instr]? with
  | some .gauge =>
    let res := grecordAll (m.gauges inv.instr) m.clock ms
    { m with gauges := setAt m.gauges inv.instr res.1, clock := res.2 }
  | some .syncGauge => m
  | some .counter => { m with sums := setAt m.sums inv.instr (recordAll (m.sums inv.instr) (ignoreNegative ms)) }
  | some .updown => { m with sums := setAt m.sums inv.instr (recordAll (m.sums inv.instr) ms) }
  | none => m

theorem observe_eq_foldl (m : AMeter) (script : Script) :
    observe m script = (invocations m.registry).foldl (observeOne script) m := rfl

/-- `m'` differs from `m` at most in the asynchronous storages (`sums`, `gauges`) and the sample clock -/
structure SameFrame (m' m : AMeter) : Prop where
  registry : m'.registry = m.registry
  kinds : m'.kinds = m.kinds
  collects : m'.collects = m.collects
  sgauges : m'.sgauges = m.sgauges

theorem observeOne_frame (script : Script) (m : AMeter) (inv : Reg) : SameFrame (observeOne script m inv) m := by
  unfold observeOne
  cases m.kinds[inv.instr]? with
  | none => exact ⟨rfl, rfl, rfl, rfl⟩
  | some k => cases k <;> exact ⟨rfl, rfl, rfl, rfl⟩

theorem foldl_observeOne_frame (script : Script) : ∀ (l : Registry) (m : AMeter),
    SameFrame (l.foldl (observeOne script) m) m := by
  intro l
  induction l with
  | nil => exact fun _ => ⟨rfl, rfl, rfl, rfl⟩
  | cons inv t ih =>
    intro m
    have a := observeOne_frame script m inv
    have b := ih (observeOne script m inv)
    exact ⟨b.registry.trans a.registry, b.kinds.trans a.kinds, b.collects.trans a.collects, b.sgauges.trans a.sgauges⟩

theorem observe_frame (m : AMeter) (script : Script) : SameFrame (observe m script) m :=
  foldl_observeOne_frame script _ m

theorem meter_registry (c : Cfg) : ∀ h : List AOp, (amrunRev c h).registry = rrunRev (regOps h) := by
  intro h
  induction h with
  | nil => rfl
  | cons op o ih =>
    cases op with
    | grec i a v => simp only [amrunRev, amstep, regOps]; split <;> exact ih
    | collect r script => exact (observe_frame _ script).registry.trans ih
    | create k => exact ih
    | _ => simp only [amrunRev, amstep, regOps, rrunRev, rstep, ih]

/-- for every meter history, the callbacks a collection by any reader invokes
    are exactly the records registered at that moment, each once, in registration order. -/
theorem each_callback_once_per_collect (c : Cfg) (h : List AOp) (r : Nat) (script : Script) :
    (amcollect c (amrunRev c h) r script).2.1 = (invocations (rrunRev (regOps h))).map (·.cb) := by
  simp only [amcollect, meter_registry]

/-! ## Observable counters: refinement of `AsyncMetricStorage` to C06's `SyncMetricStorage` -/

theorem has_of_mem {m : DMap} {a : Nat} {v : Int} (h : (a, v) ∈ m) : has m a = true := by
  induction m with
  | nil => cases h
  | cons kv t ih =>
    rcases List.mem_cons.mp h with rfl | hm
    · simp [has]
    · simp [has, ih hm]

theorem valAt_of_mem : ∀ {m : DMap} {a : Nat} {v : Int}, NoDup m → (a, v) ∈ m → valAt m a = v := by
  intro m a v hn h
  induction m with
  | nil => cases h
  | cons kw t ih =>
    obtain ⟨k, w⟩ := kw
    rcases List.mem_cons.mp h with heq | hm
    · obtain ⟨rfl, rfl⟩ := Prod.mk.inj heq
      simp [valAt, valAt_of_not_has t a hn.1]
    · have hka : k ≠ a := by rintro rfl; have := has_of_mem hm; rw [hn.1] at this; cases this
      simp [valAt, hka, ih hn.2 hm]

theorem setTo_append : ∀ (m : DMap) (a : Nat) (v : Int), has m a = false → setTo m a v = m ++ [(a, v)] := by
  intro m a v h
  induction m with
  | nil => rfl
  | cons kx t ih =>
    obtain ⟨k, x⟩ := kx
    simp only [has, Bool.or_eq_false_iff, beq_eq_false_iff_ne, ne_eq] at h
    simp [setTo, h.1, ih h.2]

theorem addTo_append : ∀ (m : DMap) (a : Nat) (v : Int), has m a = false → addTo m a v = m ++ [(a, v)] := by
  intro m a v h
  induction m with
  | nil => rfl
  | cons kx t ih =>
    obtain ⟨k, x⟩ := kx
    simp only [has, Bool.or_eq_false_iff, beq_eq_false_iff_ne, ne_eq] at h
    simp [addTo, h.1, ih h.2]

theorem has_setTo : ∀ (m : DMap) (a : Nat) (v : Int) (x : Nat), has (setTo m a v) x = (has m x || a == x) := by
  intro m a v x
  induction m with
  | nil => simp [setTo, has]
  | cons kw t ih =>
    obtain ⟨k, w⟩ := kw
    unfold setTo
    by_cases hk : k = a
    · subst hk; simp only [if_true, has]; cases (k == x) <;> simp
    · simp only [hk, if_false, has, ih, Bool.or_assoc]

theorem NoDup_setTo : ∀ (m : DMap) (a : Nat) (v : Int), NoDup m → NoDup (setTo m a v) := by
  intro m a v h
  induction m with
  | nil => simp [setTo, NoDup]
  | cons kx t ih =>
    obtain ⟨k, x⟩ := kx
    unfold setTo
    by_cases hk : k = a
    · simp only [hk, if_true]; subst hk; exact h
    · simp only [hk, if_false, NoDup, has_setTo]
      refine ⟨?_, ih h.2⟩
      have : (a == k) = false := by simp; exact fun h' => hk h'.symm
      simp [h.1, this]

theorem valAt_setTo : ∀ (m : DMap) (a : Nat) (v : Int) (x : Nat), NoDup m →
    valAt (setTo m a v) x = if a = x then v else valAt m x := by
  intro m a v x h
  induction m with
  | nil => simp [setTo, valAt]
  | cons kw t ih =>
    obtain ⟨k, w⟩ := kw
    unfold setTo
    by_cases hk : k = a
    · subst hk
      simp only [if_true, valAt]
      by_cases hx : k = x
      · subst hx; simp [valAt_of_not_has t k h.1]
      · simp [hx]
    · simp only [hk, if_false, valAt, ih h.2]
      by_cases hx : a = x
      · subst hx; simp [hk]
      · simp [hx]

theorem has_append (m₁ m₂ : DMap) (x : Nat) : has (m₁ ++ m₂) x = (has m₁ x || has m₂ x) := by
  induction m₁ with
  | nil => simp
  | cons kv t ih => obtain ⟨k, w⟩ := kv; simp [has, ih, Bool.or_assoc]

/-- appending a fresh key `a` to `acc` keeps `acc` disjoint from the remaining keys `t` of a duplicate-free map -/
theorem fresh_step {a : Nat} {v w : Int} {t acc : DMap} (hnd : NoDup ((a, v) :: t))
    (hd : ∀ x, has ((a, v) :: t) x = true → has acc x = false) :
    ∀ x, has t x = true → has (acc ++ [(a, w)]) x = false := by
  intro x hx
  have hxa : a ≠ x := by rintro rfl; rw [hnd.1] at hx; cases hx
  simp [has_append, has, hd x (by simp [has, hx]), hxa]

/-- the differences `Record` puts into the delta map: observed total minus the previously observed total -/
def diffs (f : Nat → Int) (ms : DMap) : DMap := ms.map fun kv => (kv.1, kv.2 - f kv.1)

theorem has_diffs (f : Nat → Int) (ms : DMap) (x : Nat) : has (diffs f ms) x = has ms x := by
  induction ms with
  | nil => rfl
  | cons kv t ih => obtain ⟨k, w⟩ := kv; simp [diffs, has] at ih ⊢; rw [ih]

/-- one iteration of the record loop on an attribute set that is not yet in the delta map -/
theorem recordOne_fresh (s : AsyncStorage) (a : Nat) (v : Int) (hc : NoDup s.cumulative) (hda : has s.delta a = false) :
    recordOne s (a, v) =
      { s with cumulative := setTo s.cumulative a v, delta := s.delta ++ [(a, v - valAt s.cumulative a)] } := by
  unfold recordOne
  rw [valAt_eq_lookup _ _ hc]
  cases s.cumulative.lookup a <;> simp [setTo_append _ _ _ hda]

/-- **The record loop under the D21 hypothesis** (no attribute set twice in the cycle, none already in the delta
    map): the delta map receives exactly the differences against the totals observed before the cycle. -/
theorem recordAll_clean : ∀ (ms : DMap) (s : AsyncStorage), NoDup ms → NoDup s.cumulative →
    (∀ x, has ms x = true → has s.delta x = false) →
    (recordAll s ms).delta = s.delta ++ diffs (valAt s.cumulative) ms ∧
    (recordAll s ms).temporal = s.temporal ∧ NoDup (recordAll s ms).cumulative ∧
    (∀ x, valAt (recordAll s ms).cumulative x = if has ms x then valAt ms x else valAt s.cumulative x) := by
  intro ms
  induction ms with
  | nil => intro s _ hc _; simp [recordAll, diffs, hc]
  | cons av t ih =>
    obtain ⟨a, v⟩ := av
    intro s hnd hc hd
    have hs1 := recordOne_fresh s a v hc (hd a (by simp [has]))
    obtain ⟨i1, i2, i3, i4⟩ := ih (recordOne s (a, v)) hnd.2
      (by rw [hs1]; exact NoDup_setTo _ _ _ hc) (by rw [hs1]; exact fresh_step hnd hd)
    rw [show recordAll s ((a, v) :: t) = recordAll (recordOne s (a, v)) t from rfl]
    refine ⟨?_, by rw [i2, hs1], i3, ?_⟩
    · rw [i1, hs1]
      simp only [diffs, List.map_cons, List.append_assoc, List.singleton_append]
      congr 2
      apply List.map_congr_left
      intro kv hkv
      -- the totals of the other attribute sets are not touched by this iteration
      have hne : a ≠ kv.1 := by
        rintro rfl; have := has_of_mem (a := kv.1) (v := kv.2) hkv; rw [hnd.1] at this; cases this
      rw [valAt_setTo _ _ _ _ hc, if_neg hne]
    · intro x
      rw [i4 x, hs1]
      simp only [has, valAt, valAt_setTo _ _ _ _ hc]
      by_cases hax : a = x
      · subst hax; simp [hnd.1, valAt_of_not_has t a hnd.1]
      · simp [hax]

theorem NoDup_diffs (f : Nat → Int) : ∀ ms : DMap, NoDup ms → NoDup (diffs f ms) := by
  intro ms h
  induction ms with
  | nil => trivial
  | cons av t ih => obtain ⟨a, _⟩ := av; exact ⟨(has_diffs f t a).trans h.1, ih h.2⟩

/-- everything the callbacks of one cycle reported to this storage -/
def Cycle.obs (cy : Cycle) : DMap := cy.recs.flatten

/-- **The hypothesis made explicit (D21)**: within one collection no attribute set is reported twice to the
    storage — neither by two callbacks nor by one callback registered twice.  (And every collection is made by one
    of the configured readers.) -/
def Clean (c : Cfg) (h : List Cycle) : Prop := ∀ cy ∈ h, NoDup cy.obs ∧ cy.r < c.n

theorem Clean.cons {c : Cfg} {cy : Cycle} {o : List Cycle} (h : Clean c (cy :: o)) :
    NoDup cy.obs ∧ cy.r < c.n ∧ Clean c o :=
  ⟨(h cy (List.mem_cons_self ..)).1, (h cy (List.mem_cons_self ..)).2, fun x hx => h x (List.mem_cons_of_mem _ hx)⟩

/-- **Specification**: the total most recently reported for attribute set `a` (0 before any report) -/
def lastObs : List Cycle → Nat → Int
  | [], _ => 0
  | cy :: o, a => if has cy.obs a then valAt cy.obs a else lastObs o a

/-- **Specification**: what reader `r` has been given for `a`: the total reported at `r`'s most recent collection -/
def givenTo (r : Nat) : List Cycle → Nat → Int
  | [], _ => 0
  | cy :: o, a => if cy.r = r then lastObs (cy :: o) a else givenTo r o a

/-- the synchronous history an asynchronous history corresponds to: each cycle becomes one `Add` per reported
    attribute set, of the difference against the total reported before, followed by the collection -/
def translate : List Cycle → List SOp
  | [] => []
  | cy :: o => .collect cy.r cy.ts :: ((diffs (lastObs o) cy.obs).map fun kv => SOp.add kv.1 kv.2).reverse ++ translate o

theorem foldl_recordAll (recs : List DMap) (s : AsyncStorage) : recs.foldl recordAll s = recordAll s recs.flatten := by
  induction recs generalizing s with
  | nil => rfl
  | cons m t ih => simp only [List.foldl_cons, List.flatten_cons, ih]; simp [recordAll, List.foldl_append]

/-- the synchronous side of a cycle: recording the differences, all for fresh attribute sets, one by one appends
    them to the current map and hands out nothing -/
theorem srunRev_adds (c : Cfg) : ∀ (d : DMap) (rest : List SOp), NoDup d →
    (∀ x, has d x = true → has (srunRev c rest).1.cur x = false) →
    srunRev c ((d.map fun kv => SOp.add kv.1 kv.2).reverse ++ rest) =
      ({ (srunRev c rest).1 with cur := (srunRev c rest).1.cur ++ d }, (srunRev c rest).2) := by
  intro d
  induction d with
  | nil => intro rest _ _; simp
  | cons av t ih =>
    obtain ⟨a, v⟩ := av
    intro rest hnd hd
    have hs1 : srunRev c (SOp.add a v :: rest) =
        ({ (srunRev c rest).1 with cur := (srunRev c rest).1.cur ++ [(a, v)] }, (srunRev c rest).2) := by
      simp only [srunRev, sstep, record, addTo_append _ _ _ (hd a (by simp [has]))]
    simp only [List.map_cons, List.reverse_cons, List.append_assoc, List.singleton_append]
    rw [ih (SOp.add a v :: rest) hnd.2 (by rw [hs1]; exact fresh_step hnd hd), hs1]
    simp

/-- the asynchronous storage and the synchronous storage it is compared with are in corresponding states -/
structure ASim (h : List Cycle) (s : AsyncStorage) (t : Storage) : Prop where
  delta : s.delta = []
  cur : t.cur = []
  temporal : s.temporal = t.temporal
  nodup : NoDup s.cumulative
  cum : ∀ a, valAt s.cumulative a = lastObs h a

/-- the reversed list of `Add`s a cycle translates to -/
def cycleAdds (o : List Cycle) (cy : Cycle) : List SOp :=
  ((diffs (lastObs o) cy.obs).map fun kv => SOp.add kv.1 kv.2).reverse

/-- `translate` with the `Add`s of the most recent cycle named -/
theorem translate_cons (cy : Cycle) (o : List Cycle) :
    translate (cy :: o) = .collect cy.r cy.ts :: (cycleAdds o cy ++ translate o) := rfl

/-- one cycle of an observable counter against C06's storage holding the cycle's differences: same output, and the two
    are again in corresponding states -/
theorem cycle_step (c : Cfg) (o : List Cycle) (cy : Cycle) (hnd : NoDup cy.obs) (hv : cy.r < c.n)
    (s : AsyncStorage) (t : Storage) (sim : ASim o s t) :
    (acycle c s cy).2 = (collect c (Storage.mk (diffs (lastObs o) cy.obs) t.temporal) cy.r cy.ts).2 ∧
    ASim (cy :: o) (acycle c s cy).1 (collect c (Storage.mk (diffs (lastObs o) cy.obs) t.temporal) cy.r cy.ts).1 := by
  obtain ⟨r1, r2, r3, r4⟩ := recordAll_clean cy.obs s hnd sim.nodup (by intro x _; rw [sim.delta]; rfl)
  rw [sim.delta, List.nil_append, funext sim.cum] at r1
  have hc1 : acycle c s cy =
      ({ recordAll s cy.obs with delta := [], temporal :=
          (buildMetrics c.n (c.temp cy.r) t.temporal cy.r cy.ts (diffs (lastObs o) cy.obs)).1 },
       (buildMetrics c.n (c.temp cy.r) t.temporal cy.r cy.ts (diffs (lastObs o) cy.obs)).2) := by
    simp only [acycle, foldl_recordAll, acollect, hv, if_true]
    rw [show cy.recs.flatten = cy.obs from rfl, r1, r2, sim.temporal]
  rw [hc1, collect_eq c _ cy.r cy.ts hv]
  exact ⟨rfl, { delta := rfl, cur := rfl, temporal := rfl, nodup := r3, cum := fun a => by rw [r4 a, sim.cum a]; rfl }⟩

theorem srunRev_translate_cons (c : Cfg) (o : List Cycle) (cy : Cycle) (hnd : NoDup cy.obs)
    (hcur : (srunRev c (translate o)).1.cur = []) :
    srunRev c (cycleAdds o cy ++ translate o) =
      (Storage.mk (diffs (lastObs o) cy.obs) (srunRev c (translate o)).1.temporal, (srunRev c (translate o)).2) := by
  rw [cycleAdds, srunRev_adds c _ _ (NoDup_diffs _ _ hnd) (by intro x _; rw [hcur]; rfl), hcur, List.nil_append]

/-- under the hypothesis, for every history of collection cycles by any readers, the
    asynchronous storage hands out exactly what C06's synchronous storage hands out on the translated history,
    and stays in a corresponding state. -/
theorem async_refines_sync (c : Cfg) : ∀ (h : List Cycle), Clean c h →
    ASim h (arunRev c h).1 (srunRev c (translate h)).1 ∧ (arunRev c h).2 = (srunRev c (translate h)).2 := by
  intro h
  induction h with
  | nil => exact fun _ => ⟨⟨rfl, rfl, rfl, trivial, fun _ => rfl⟩, rfl⟩
  | cons cy o ih =>
    intro hcl
    obtain ⟨hnd, hv, hclo⟩ := hcl.cons
    obtain ⟨sim, houts⟩ := ih hclo
    obtain ⟨s1, s2⟩ := cycle_step c o cy hnd hv _ _ sim
    rw [translate_cons, srunRev_cons, outs_cons_collect, srunRev_translate_cons c o cy hnd sim.cur, ← s1, ← houts]
    refine ⟨s2, ?_⟩
    show (match (acycle c (arunRev c o).1 cy).2 with | some md => (cy.r, md) :: (arunRev c o).2 | none => (arunRev c o).2) = _
    cases (acycle c (arunRev c o).1 cy).2 <;> rfl

/-- what reader `cy.r` receives in cycle `cy` after history `o` -/
def cycleOut (c : Cfg) (o : List Cycle) (cy : Cycle) : Option MetricData := (acycle c (arunRev c o).1 cy).2

/-- … is what C06's storage hands out after the translated history -/
theorem cycleOut_eq (c : Cfg) (o : List Cycle) (cy : Cycle) (hcl : Clean c (cy :: o)) :
    cycleOut c o cy = (collect c (srunRev c (cycleAdds o cy ++ translate o)).1 cy.r cy.ts).2 := by
  obtain ⟨hnd, hv, hclo⟩ := hcl.cons
  obtain ⟨sim, _⟩ := async_refines_sync c o hclo
  rw [srunRev_translate_cons c o cy hnd sim.cur]
  exact (cycle_step c o cy hnd hv _ _ sim).1

theorem recorded_adds (d : DMap) (a : Nat) : recorded ((d.map fun kv => SOp.add kv.1 kv.2).reverse) a = valAt d a := by
  rw [recorded_reverse]
  induction d with
  | nil => rfl
  | cons kv t ih => obtain ⟨k, v⟩ := kv; simp [recorded, valAt, ih]

theorem valAt_diffs (f : Nat → Int) (a : Nat) : ∀ ms : DMap, NoDup ms →
    valAt (diffs f ms) a = if has ms a then valAt ms a - f a else 0 := by
  intro ms h
  induction ms with
  | nil => rfl
  | cons kv t ih =>
    obtain ⟨k, v⟩ := kv
    have ih : valAt (diffs f t) a = _ := ih h.2
    simp only [diffs, List.map_cons, valAt, has] at ih ⊢
    rw [ih]
    by_cases hk : k = a
    · subst hk; simp [h.1, valAt_of_not_has t k h.1]
    · simp [hk]

theorem noCollect_cycleAdds (r : Nat) (o : List Cycle) (cy : Cycle) : NoCollectBy r (cycleAdds o cy) := by
  intro op hop
  simp only [cycleAdds, List.mem_reverse, List.mem_map] at hop
  obtain ⟨kv, _, rfl⟩ := hop
  rfl

theorem recSince_append_noCollect (r : Nat) (rest : List SOp) (a : Nat) :
    ∀ l : List SOp, NoCollectBy r l → recSince r (l ++ rest) a = recorded l a + recSince r rest a := by
  intro l h
  induction l with
  | nil => simp [recorded]
  | cons op l ih =>
    have ih := ih fun op hm => h op (List.mem_cons_of_mem _ hm)
    cases op with
    | add a' v => simp only [List.cons_append, recSince, recorded]; rw [ih]; omega
    | collect r' t' =>
      have hne : r' ≠ r := by simpa [isCollectBy] using h (.collect r' t') (List.mem_cons_self ..)
      simp only [List.cons_append, recSince, recorded, hne, if_false]
      exact ih

theorem recorded_cycleAdds (o : List Cycle) (cy : Cycle) (hnd : NoDup cy.obs) (a : Nat) :
    recorded (cycleAdds o cy) a + lastObs o a = lastObs (cy :: o) a := by
  unfold cycleAdds
  rw [recorded_adds, valAt_diffs _ _ _ hnd]
  simp only [lastObs]
  split <;> omega

/-- the differences telescope — the Σ of the translated history is the last reported total -/
theorem lastObs_eq_recorded (c : Cfg) (a : Nat) : ∀ h : List Cycle, Clean c h → recorded (translate h) a = lastObs h a := by
  intro h hcl
  induction h with
  | nil => rfl
  | cons cy o ih =>
    rw [translate_cons, recorded, recorded_append, ih hcl.cons.2.2]
    exact recorded_cycleAdds o cy hcl.cons.1 a

theorem recSince_translate (c : Cfg) (r a : Nat) : ∀ h : List Cycle, Clean c h →
    recSince r (translate h) a = lastObs h a - givenTo r h a := by
  intro h hcl
  induction h with
  | nil => rfl
  | cons cy o ih =>
    rw [translate_cons]; simp only [recSince, givenTo]
    by_cases hr : cy.r = r
    · simp [hr]
    · simp only [hr, if_false]
      rw [recSince_append_noCollect r _ a _ (noCollect_cycleAdds r o cy), ih hcl.cons.2.2]
      have := recorded_cycleAdds o cy hcl.cons.1 a
      omega

/-- under the hypothesis, in every history, a cumulative reader's point
    for `a` is the total most recently reported for `a` … -/
theorem observable_cumulative_is_reported_total (c : Cfg) (o : List Cycle) (cy : Cycle) (hcl : Clean c (cy :: o))
    (hc : c.temp cy.r = .cumulative) (a : Nat) :
    valAt (pointsOf (cycleOut c o cy)) a = lastObs (cy :: o) a := by
  rw [cycleOut_eq c o cy hcl, cumulative_running_total_rev c _ cy.r cy.ts hcl.cons.2.1 hc a]
  exact lastObs_eq_recorded c a (cy :: o) hcl

/-- … in particular, for an attribute set the callback reports in this cycle, the value just reported -/
theorem observable_cumulative_reports_this_cycle (c : Cfg) (o : List Cycle) (cy : Cycle) (hcl : Clean c (cy :: o))
    (hc : c.temp cy.r = .cumulative) (a : Nat) (v : Int) (hrep : (a, v) ∈ cy.obs) :
    valAt (pointsOf (cycleOut c o cy)) a = v := by
  rw [observable_cumulative_is_reported_total c o cy hcl hc a, lastObs, if_pos (has_of_mem hrep),
    valAt_of_mem hcl.cons.1 hrep]

/-- under the hypothesis, in every history, a delta reader's point for
    `a` is the total most recently reported minus what this same reader was given at its own previous collection —
    the other readers' collections (which also run the callbacks) do not enter. -/
theorem observable_delta_is_diff_from_own_last (c : Cfg) (o : List Cycle) (cy : Cycle) (hcl : Clean c (cy :: o))
    (hd : c.temp cy.r = .delta) (a : Nat) :
    valAt (pointsOf (cycleOut c o cy)) a = lastObs (cy :: o) a - givenTo cy.r o a := by
  obtain ⟨hnd, hv, hclo⟩ := hcl.cons
  rw [cycleOut_eq c o cy hcl, interval_exact_rev c _ cy.r cy.ts hv hd a,
    recSince_append_noCollect cy.r _ a _ (noCollect_cycleAdds cy.r o cy), recSince_translate c cy.r a o hclo]
  have := recorded_cycleAdds o cy hnd a
  omega

/-- the delta points a reader has received for `a` add up to the total reported
    at its most recent collection. -/
theorem observable_delta_sums_to_given (c : Cfg) (h : List Cycle) (hcl : Clean c h) (r : Nat) (hr : r < c.n)
    (hd : c.temp r = .delta) (a : Nat) : delivered r (arunRev c h).2 a = givenTo r h a := by
  rw [(async_refines_sync c h hcl).2, delivered_eq c r hr hd a, lastObs_eq_recorded c a h hcl,
    recSince_translate c r a h hcl]
  omega

/-- what a delta reader receives depends only on the latest reported total and
    on what this reader itself was last given: two histories that agree on these two give it the same value, however
    many collections other readers made in either. -/
theorem reader_noninterference_async (c : Cfg) (o₁ o₂ : List Cycle) (cy₁ cy₂ : Cycle)
    (h1 : Clean c (cy₁ :: o₁)) (h2 : Clean c (cy₂ :: o₂)) (hr : cy₁.r = cy₂.r) (hd : c.temp cy₁.r = .delta) (a : Nat)
    (hlast : lastObs (cy₁ :: o₁) a = lastObs (cy₂ :: o₂) a) (hgiven : givenTo cy₁.r o₁ a = givenTo cy₂.r o₂ a) :
    valAt (pointsOf (cycleOut c o₁ cy₁)) a = valAt (pointsOf (cycleOut c o₂ cy₂)) a := by
  rw [observable_delta_is_diff_from_own_last c o₁ cy₁ h1 hd a,
    observable_delta_is_diff_from_own_last c o₂ cy₂ h2 (by rw [← hr]; exact hd) a, hlast, hgiven]

/-- **D21_witness**: without the hypothesis the clause fails.  One callback registered twice reports the total 10 for
    attribute set 1 in the first cycle: the second `Record` overwrites the first delta with `10 - 10`, the delta
    reader receives 0 although every report said 10 and it was given nothing before. -/
theorem D21_witness :
    let c : Cfg := ⟨[.delta]⟩
    let cy : Cycle := ⟨[[(1, 10)], [(1, 10)]], 0, 1⟩
    valAt (pointsOf (cycleOut c [] cy)) 1 = 0 ∧ (∀ kv ∈ cy.obs, kv = (1, 10)) ∧ givenTo 0 [] 1 = 0 ∧ ¬ NoDup cy.obs := by
  refine ⟨by decide, by decide, rfl, ?_⟩
  simp [Cycle.obs, NoDup, has]

/-- the hypothesis is satisfiable: two callbacks reporting different attribute sets, two readers -/
example : Clean ⟨[.delta, .cumulative]⟩ [⟨[[(1, 10)], [(2, 7), (3, 0)]], 1, 2⟩, ⟨[[(1, 4)]], 0, 1⟩] := by
  intro cy h; simp at h; rcases h with rfl | rfl <;> simp [Cycle.obs, NoDup, has, Cfg.n]

/-! ## Gauges: the last-value aggregation through the temporal storage -/

/-- `(o or default)->Merge(s)`: the default aggregation carries the epoch as sample time -/
def later' (o : Option Sample) (s : Sample) : Sample :=
  match o with
  | none => s
  | some p => later p s

/-- combine what is known so far with the (possibly absent) sample of the next map -/
def olat (o : Option Sample) (s : Option Sample) : Option Sample :=
  match s with
  | none => o
  | some s => some (later' o s)

def LNoDup : LMap → Prop
  | [] => True
  | (k, _) :: t => t.lookup k = none ∧ LNoDup t

theorem later_epoch (s : Sample) : later ⟨0, 0⟩ s = s := by simp [later]

theorem lookup_cons_ite (k : Nat) (w : Sample) (t : LMap) (x : Nat) :
    ((k, w) :: t).lookup x = if x = k then some w else t.lookup x := by
  by_cases h : x = k
  · simp [List.lookup, h]
  · have : (x == k) = false := beq_false_of_ne h
    simp only [List.lookup, this, h, if_false]

theorem lookup_lset : ∀ (m : LMap) (a : Nat) (s : Sample) (x : Nat),
    (lset m a s).lookup x = if x = a then some s else m.lookup x := by
  intro m a s x
  induction m with
  | nil => simp only [lset, lookup_cons_ite, List.lookup_nil]
  | cons kw t ih =>
    obtain ⟨k, w⟩ := kw
    unfold lset
    by_cases hk : k = a
    · subst hk; simp only [if_true, lookup_cons_ite]; split <;> rfl
    · simp only [hk, if_false, lookup_cons_ite, ih]
      by_cases hxk : x = k
      · subst hxk; simp only [if_true, hk, if_false]
      · simp only [hxk, if_false]

theorem LNoDup_lset : ∀ (m : LMap) (a : Nat) (s : Sample), LNoDup m → LNoDup (lset m a s) := by
  intro m a s h
  induction m with
  | nil => simp [lset, LNoDup, List.lookup]
  | cons kw t ih =>
    obtain ⟨k, w⟩ := kw
    unfold lset
    by_cases hk : k = a
    · subst hk; simp only [if_true]; exact h
    · simp only [hk, if_false, LNoDup]
      refine ⟨?_, ih h.2⟩
      rw [lookup_lset]; simp [hk, h.1]

theorem lookup_lmergeOne (acc : LMap) (kv : Nat × Sample) (x : Nat) :
    (lmergeOne acc kv).lookup x = if x = kv.1 then some (later' (acc.lookup kv.1) kv.2) else acc.lookup x := by
  unfold lmergeOne
  cases h : acc.lookup kv.1 with
  | none => simp only [lookup_lset, later', later_epoch]
  | some p => simp only [lookup_lset, later']

theorem LNoDup_lmergeOne (acc : LMap) (kv : Nat × Sample) (h : LNoDup acc) : LNoDup (lmergeOne acc kv) := by
  unfold lmergeOne
  cases acc.lookup kv.1 <;> exact LNoDup_lset _ _ _ h

theorem lookup_lmergeInto : ∀ (m acc : LMap) (x : Nat), LNoDup m →
    (lmergeInto acc m).lookup x = olat (acc.lookup x) (m.lookup x) := by
  intro m
  induction m with
  | nil => intro acc x _; simp [lmergeInto, olat, List.lookup]
  | cons kw t ih =>
    obtain ⟨k, w⟩ := kw
    intro acc x h
    have ih := ih (lmergeOne acc (k, w)) x h.2
    have hstep : lmergeInto acc ((k, w) :: t) = lmergeInto (lmergeOne acc (k, w)) t := rfl
    rw [hstep, ih, lookup_lmergeOne, lookup_cons_ite]
    by_cases hx : x = k
    · subst hx; simp only [if_true, h.1, olat]
    · simp only [hx, if_false]

theorem LNoDup_lmergeInto (m acc : LMap) (h : LNoDup acc) : LNoDup (lmergeInto acc m) :=
  List.foldlRecOn m lmergeOne h fun acc h kv _ => LNoDup_lmergeOne acc kv h

def foldLat (l : List LMap) (o : Option Sample) (x : Nat) : Option Sample := l.foldl (fun o m => olat o (m.lookup x)) o

theorem lookup_foldl_lmergeInto : ∀ (l : List LMap) (acc : LMap) (x : Nat), (∀ m ∈ l, LNoDup m) →
    (l.foldl lmergeInto acc).lookup x = foldLat l (acc.lookup x) x := by
  intro l
  induction l with
  | nil => intro _ _ _; rfl
  | cons m t ih =>
    intro acc x h
    simp only [List.foldl_cons, foldLat]
    rw [ih _ x (fun m' hm => h m' (List.mem_cons_of_mem _ hm)),
      lookup_lmergeInto m acc x (h m (List.mem_cons_self ..))]
    rfl

theorem lookup_lmergeAll (l : List LMap) (x : Nat) (h : ∀ m ∈ l, LNoDup m) :
    (lmergeAll l).lookup x = foldLat l none x := by
  unfold lmergeAll; rw [lookup_foldl_lmergeInto l [] x h]; rfl

theorem LNoDup_lmergeAll (l : List LMap) : LNoDup (lmergeAll l) :=
  List.foldlRecOn l lmergeInto (motive := LNoDup) trivial fun acc h m _ => LNoDup_lmergeInto m acc h

/-! ### specification vocabulary for gauge histories (most recent operation first) -/

/-- the most recent sample recorded for `x` -/
def latestRec : List LOp → Nat → Option Sample
  | [], _ => none
  | .record a s :: o, x => if a = x then some s else latestRec o x
  | .collect _ _ :: o, x => latestRec o x

/-- the most recent sample recorded for `x` since reader `r`'s last collection -/
def latestSince (r : Nat) : List LOp → Nat → Option Sample
  | [], _ => none
  | .record a s :: o, x => if a = x then some s else latestSince r o x
  | .collect r' _ :: o, x => if r' = r then none else latestSince r o x

/-- the most recent sample recorded for `x` before reader `r`'s last collection -/
def latestBefore (r : Nat) : List LOp → Nat → Option Sample
  | [], _ => none
  | .record _ _ :: o, x => latestBefore r o x
  | .collect r' _ :: o, x => if r' = r then latestRec o x else latestBefore r o x

def anyRec : List LOp → Bool
  | [] => false
  | .record _ _ :: _ => true
  | .collect _ _ :: o => anyRec o

def anyRecSince (r : Nat) : List LOp → Bool
  | [] => false
  | .record _ _ :: _ => true
  | .collect r' _ :: o => if r' = r then false else anyRecSince r o

def maxTs : List LOp → Nat
  | [] => 0
  | .record _ s :: o => max s.ts (maxTs o)
  | .collect _ _ :: o => maxTs o

/-- **The clock hypothesis**: sample times are strictly increasing along the history (the design's "logical sample
    times"; the real clock can tie, which is why the baseline's last-value tests are flaky) -/
def Increasing : List LOp → Prop
  | [] => True
  | .record _ s :: o => maxTs o < s.ts ∧ Increasing o
  | .collect _ _ :: o => Increasing o

theorem latestRec_le_maxTs : ∀ (h : List LOp) (x : Nat) (p : Sample), latestRec h x = some p → p.ts ≤ maxTs h := by
  intro h x p hh
  induction h with
  | nil => simp [latestRec] at hh
  | cons op o ih =>
    cases op with
    | record a s =>
      simp only [latestRec] at hh
      simp only [maxTs]
      split at hh
      · simp only [Option.some.injEq] at hh; subst hh; exact Nat.le_max_left ..
      · exact Nat.le_trans (ih hh) (Nat.le_max_right ..)
    | collect _ _ => exact ih hh

theorem latestBefore_le_maxTs (r : Nat) : ∀ (h : List LOp) (x : Nat) (p : Sample), latestBefore r h x = some p → p.ts ≤ maxTs h := by
  intro h x p hh
  induction h with
  | nil => simp [latestBefore] at hh
  | cons op o ih =>
    cases op with
    | record a s =>
      simp only [latestBefore] at hh
      exact Nat.le_trans (ih hh) (Nat.le_max_right ..)
    | collect r' _ =>
      simp only [latestBefore] at hh
      split at hh
      · exact latestRec_le_maxTs o x p hh
      · exact ih hh

/-- what was recorded before the reader's last collection is older than what was recorded after it -/
theorem before_lt_since (r : Nat) : ∀ (h : List LOp) (x : Nat) (p l : Sample), Increasing h →
    latestSince r h x = some p → latestBefore r h x = some l → l.ts < p.ts := by
  intro h x p l hi hs hb
  induction h with
  | nil => simp [latestSince] at hs
  | cons op o ih =>
    cases op with
    | record a s =>
      simp only [latestSince] at hs
      simp only [latestBefore] at hb
      split at hs
      · simp only [Option.some.injEq] at hs; subst hs
        exact Nat.lt_of_le_of_lt (latestBefore_le_maxTs r o x l hb) hi.1
      · exact ih hi.2 hs hb
    | collect r' _ =>
      simp only [latestSince] at hs
      simp only [latestBefore] at hb
      split at hs
      · cases hs
      · rename_i hne; simp only [hne, if_false] at hb
        exact ih hi hs hb

theorem latestRec_split (r : Nat) : ∀ (h : List LOp) (x : Nat),
    latestRec h x = match latestSince r h x with | some p => some p | none => latestBefore r h x := by
  intro h x
  induction h with
  | nil => rfl
  | cons op o ih =>
    cases op with
    | record a s =>
      simp only [latestRec, latestSince, latestBefore]
      split
      · rfl
      · exact ih
    | collect r' _ =>
      simp only [latestRec, latestSince, latestBefore]
      by_cases hr : r' = r
      · simp [hr]
      · simp only [hr, if_false]; exact ih

theorem latestRec_none_of_anyRec : ∀ (h : List LOp) (x : Nat), anyRec h = false → latestRec h x = none := by
  intro h x hh
  induction h with
  | nil => rfl
  | cons op o ih =>
    cases op with
    | record _ _ => simp [anyRec] at hh
    | collect _ _ => exact ih (by simpa [anyRec] using hh)

/-! ### normal forms of `lbuild` and the invariant

The invariant speaks of a reader's stash and last report through the views `lstash` and `llastMap` (for which an absent
entry and an empty one are the same) and of a collection's output through `lpoints`; only its last two fields
(`lastStash`, `noStash`) say when an entry is absent.  The normal forms below are stated on these views, so that the
case distinctions of `lbuild` do not reappear in the invariant's proofs. -/

def lstash (t : LState) (r : Nat) : List LMap := (t.unreported r).getD []
def llastMap (t : LState) (r : Nat) : LMap := ((t.last r).map (·.1)).getD []

def lpoints : Option LData → LMap
  | none => []
  | some md => md.points

def lstashed (n : Nat) (u : Nat → Option (List LMap)) (δ : LMap) : Nat → Option (List LMap) :=
  if δ.isEmpty then u else lstashAll n u δ

/-- what a collection on the general path reports for the stash `lst` -/
def lmergedFor (t : LState) (temp : Temporality) (r : Nat) (lst : List LMap) : LMap :=
  match temp with
  | .delta => lmergeAll lst
  | .cumulative => lmergeInto (lmergeAll lst) (llastMap t r)

theorem LNoDup_lmergedFor (t : LState) (temp : Temporality) (r : Nat) (lst : List LMap) : LNoDup (lmergedFor t temp r lst) := by
  cases temp
  · exact LNoDup_lmergeAll _
  · exact LNoDup_lmergeInto _ _ (LNoDup_lmergeAll _)

theorem lstashed_fold (n : Nat) (u : Nat → Option (List LMap)) (δ : LMap) (r : Nat) (hr : r < n) (x : Nat) :
    foldLat ((lstashed n u δ r).getD []) none x = olat (foldLat ((u r).getD []) none x) (δ.lookup x) := by
  unfold lstashed
  by_cases he : δ.isEmpty
  · have : δ = [] := List.isEmpty_iff.mp he
    subst this; simp [olat, List.lookup]
  · simp only [he, Bool.false_eq_true, if_false, lstashAll, hr, if_true, Option.getD_some, foldLat,
      List.foldl_append, List.foldl_cons, List.foldl_nil]

theorem lstashed_none {n : Nat} {u : Nat → Option (List LMap)} {δ : LMap} {r : Nat} (hr : r < n)
    (h : lstashed n u δ r = none) : u r = none ∧ δ = [] := by
  unfold lstashed at h
  by_cases he : δ.isEmpty
  · rw [if_pos he] at h; exact ⟨h, List.isEmpty_iff.mp he⟩
  · simp [he, lstashAll, hr] at h

theorem lstashed_nodup (n : Nat) (u : Nat → Option (List LMap)) (δ : LMap) (r : Nat) (hδ : LNoDup δ)
    (hu : ∀ m ∈ (u r).getD [], LNoDup m) : ∀ m ∈ (lstashed n u δ r).getD [], LNoDup m := by
  unfold lstashed
  by_cases he : δ.isEmpty
  · simpa [he] using hu
  · simp only [he, Bool.false_eq_true, if_false, lstashAll]
    split
    · intro m hm
      simp only [Option.getD_some, List.mem_append, List.mem_singleton] at hm
      rcases hm with hm | rfl
      · exact hu m hm
      · exact hδ
    · exact hu

theorem lbuild_multi_none (n : Nat) (temp : Temporality) (t : LState) (r now : Nat) (δ : LMap)
    (hf : fastPath n temp = false) (hu : lstashed n t.unreported δ r = none) :
    lbuild n temp t r now δ = ({ t with unreported := lstashed n t.unreported δ }, none) := by
  unfold lbuild
  unfold lstashed at hu ⊢
  simp only [hf, Bool.false_eq_true, if_false, hu]

theorem lbuild_multi_some (n : Nat) (temp : Temporality) (t : LState) (r now : Nat) (δ : LMap) (lst : List LMap)
    (hf : fastPath n temp = false) (hu : lstashed n t.unreported δ r = some lst) :
    ∃ start, lbuild n temp t r now δ =
      (⟨setAt (lstashed n t.unreported δ) r (some []), setAt t.last r (some (lmergedFor t temp r lst, now))⟩,
       some ⟨temp, start, now, lmergedFor t temp r lst⟩) := by
  unfold lbuild lmergedFor llastMap
  unfold lstashed at hu ⊢
  simp only [hf, Bool.false_eq_true, if_false, hu]
  cases hl : t.last r with
  | none => cases temp <;> exact ⟨0, rfl⟩
  | some p =>
    obtain ⟨lm, lts⟩ := p
    cases temp
    · exact ⟨lts, rfl⟩
    · exact ⟨0, rfl⟩

/-- fast path: the current map is what is reported; stash and last map stay as they are -/
theorem lbuild_fast (n : Nat) (temp : Temporality) (t : LState) (r now : Nat) (δ : LMap)
    (hf : fastPath n temp = true) :
    lpoints (lbuild n temp t r now δ).2 = δ ∧ (lbuild n temp t r now δ).1.unreported = t.unreported ∧
    llastMap (lbuild n temp t r now δ).1 r = llastMap t r := by
  unfold lbuild
  simp only [hf, if_true]
  by_cases he : δ.isEmpty
  · rw [if_pos he]; exact ⟨(List.isEmpty_iff.mp he).symm, rfl, rfl⟩
  · rw [if_neg he]
    cases hl : t.last r with
    | none => exact ⟨rfl, rfl, by simp only [llastMap, setAt_same, hl]; rfl⟩
    | some p => exact ⟨rfl, rfl, by simp only [llastMap, setAt_same, hl]; rfl⟩

/-- general path, the collecting reader `r`: the merge of its stash (the current map included) and, for a cumulative
    reader, of its last report is reported and becomes the last report; the stash is emptied.  A reader without a
    stash entry gets nothing; `hls` (it has no last report either) makes that the same as an empty merge. -/
theorem lbuild_multi_self (n : Nat) (temp : Temporality) (t : LState) (r now : Nat) (δ : LMap)
    (hf : fastPath n temp = false) (hr : r < n) (hls : t.unreported r = none → t.last r = none) :
    lpoints (lbuild n temp t r now δ).2 = lmergedFor t temp r ((lstashed n t.unreported δ r).getD []) ∧
    lstash (lbuild n temp t r now δ).1 r = [] ∧
    llastMap (lbuild n temp t r now δ).1 r = lmergedFor t temp r ((lstashed n t.unreported δ r).getD []) ∧
    ((lbuild n temp t r now δ).1.unreported r = none → (lbuild n temp t r now δ).1.last r = none) := by
  cases hu : lstashed n t.unreported δ r with
  | none =>
    -- nothing stashed, so (`hls`) nothing reported before: the merge of no maps with no last report is empty
    have hl := hls (lstashed_none hr hu).1
    have hm : lmergedFor t temp r [] = [] := by
      cases temp
      · rfl
      · simp only [lmergedFor, llastMap, hl]; rfl
    rw [lbuild_multi_none _ _ _ _ _ _ hf hu]
    exact ⟨hm.symm, by simp only [lstash, hu]; rfl, by simp only [llastMap, hl]; exact hm.symm, fun _ => hl⟩
  | some lst =>
    obtain ⟨start, hb⟩ := lbuild_multi_some _ _ _ _ _ _ lst hf hu
    rw [hb]
    exact ⟨rfl, by simp only [lstash, setAt_same]; rfl, by simp only [llastMap, setAt_same]; rfl,
      fun h => by simp only [setAt_same] at h; cases h⟩

/-- general path, another reader `r ≠ r'`: only its stash changes -/
theorem lbuild_multi_other (n : Nat) (temp : Temporality) (t : LState) (r' now : Nat) (δ : LMap)
    (hf : fastPath n temp = false) {r : Nat} (hne : r ≠ r') :
    (lbuild n temp t r' now δ).1.unreported r = lstashed n t.unreported δ r ∧
    (lbuild n temp t r' now δ).1.last r = t.last r := by
  cases hu : lstashed n t.unreported δ r' with
  | none => rw [lbuild_multi_none _ _ _ _ _ _ hf hu]; exact ⟨rfl, rfl⟩
  | some lst =>
    obtain ⟨start, hb⟩ := lbuild_multi_some _ _ _ _ _ _ lst hf hu
    rw [hb]; exact ⟨setAt_other _ _ hne, setAt_other _ _ hne⟩

/-- state `s` is consistent with gauge history `h`, for reader `r` -/
structure LInv (c : Cfg) (h : List LOp) (s : LStorage) (r : Nat) : Prop where
  ndCur : LNoDup s.cur
  ndStash : ∀ m ∈ lstash s.temporal r, LNoDup m
  ndLast : LNoDup (llastMap s.temporal r)
  /-- stash then current map, folded for one key, is the latest sample of the reader's interval -/
  pend : ∀ x, olat (foldLat (lstash s.temporal r) none x) (s.cur.lookup x) = latestSince r h x
  stashBound : ∀ x p, foldLat (lstash s.temporal r) none x = some p → p.ts ≤ maxTs h
  last : c.temp r = .cumulative → ∀ x, (llastMap s.temporal r).lookup x = latestBefore r h x
  lastStash : fastPath c.n (c.temp r) = false → s.temporal.unreported r = none → s.temporal.last r = none
  noStash : fastPath c.n (c.temp r) = true → s.temporal.unreported r = none

/-- initially every map of the state is empty and so is every answer of the specification -/
theorem linv_init (c : Cfg) (r : Nat) : LInv c [] LStorage.init r where
  ndCur := trivial
  ndStash := fun _ hm => nomatch hm
  ndLast := trivial
  pend := fun _ => rfl
  stashBound := fun _ _ hp => nomatch hp
  last := fun _ _ => rfl
  lastStash := fun _ _ => rfl
  noStash := fun _ => rfl

theorem lcollect_eq (c : Cfg) (s : LStorage) (r ts : Nat) (hr : r < c.n) :
    lcollect c s r ts = ({ cur := [], temporal := (lbuild c.n (c.temp r) s.temporal r ts s.cur).1 },
      (lbuild c.n (c.temp r) s.temporal r ts s.cur).2) := by
  simp only [lcollect, hr, if_true]

theorem linv_record (c : Cfg) (h : List LOp) (s : LStorage) (r a : Nat) (x : Sample) (hinc : maxTs h < x.ts)
    (hi : LInv c h s r) : LInv c (.record a x :: h) (lstep c s (.record a x)).1 r := by
  simp only [lstep]
  -- only the current map and the history change: `pend`, `stashBound`, `last` are to be re-established
  refine { ndCur := LNoDup_lset _ _ _ hi.ndCur, ndStash := hi.ndStash, ndLast := hi.ndLast, pend := ?_,
           stashBound := ?_, last := ?_, lastStash := hi.lastStash, noStash := hi.noStash }
  · intro y
    simp only [lookup_lset, latestSince]
    by_cases hy : y = a
    · subst hy
      simp only [if_true, olat]
      cases hf : foldLat (lstash s.temporal r) none y with
      | none => rfl
      | some p =>
        -- the stash is older than the new sample, so merging keeps the new sample
        have hlt : ¬ p.ts > x.ts := by have := hi.stashBound y p hf; omega
        simp [later', later, hlt]
    · simp only [hy, Ne.symm hy, if_false]; exact hi.pend y
  · intro y p hp
    exact Nat.le_trans (hi.stashBound y p hp) (Nat.le_max_right ..)
  · intro hc y; simpa [latestBefore] using hi.last hc y

/-- a collection by another reader changes nothing the invariant says about the history -/
theorem linv_cons_other {c : Cfg} {h : List LOp} {s : LStorage} {r r' : Nat} (ts : Nat) (hne : r' ≠ r)
    (hi : LInv c h s r) : LInv c (.collect r' ts :: h) s r :=
  { hi with
    pend := fun x => by simpa [latestSince, hne] using hi.pend x
    stashBound := fun x p hp => by simpa [maxTs] using hi.stashBound x p hp
    last := fun hc x => by simpa [latestBefore, hne] using hi.last hc x }

theorem linv_collect_other (c : Cfg) (h : List LOp) (s : LStorage) (r' ts : Nat) (hv : r' < c.n)
    (hf : fastPath c.n (c.temp r') = false) (r : Nat) (hr : r < c.n) (hne : r' ≠ r) (hi : LInv c h s r) :
    LInv c (.collect r' ts :: h) (lstep c s (.collect r' ts)).1 r := by
  have hfr : fastPath c.n (c.temp r) = false := by rw [fastPath_same c hr hv]; exact hf
  obtain ⟨hu, hl⟩ := lbuild_multi_other c.n (c.temp r') s.temporal r' ts s.cur hf (Ne.symm hne)
  -- the reader's stash now ends with the current map: what is pending for it is unchanged
  have hfold : ∀ x, foldLat (lstash (lbuild c.n (c.temp r') s.temporal r' ts s.cur).1 r) none x = latestSince r h x := by
    intro x; rw [lstash, hu, lstashed_fold c.n s.temporal.unreported s.cur r hr x]; exact hi.pend x
  simp only [lstep]
  rw [lcollect_eq c s r' ts hv]
  refine linv_cons_other ts hne
    { ndCur := trivial, ndStash := ?_, ndLast := ?_, pend := ?_, stashBound := ?_, last := ?_, lastStash := ?_,
      noStash := fun hf' => by rw [hfr] at hf'; cases hf' }
  · simp only [lstash, hu]; exact lstashed_nodup c.n s.temporal.unreported s.cur r hi.ndCur hi.ndStash
  · simp only [llastMap, hl]; exact hi.ndLast
  · intro x; rw [hfold x]; cases latestSince r h x <;> rfl
  · intro x p hp; rw [hfold x] at hp; exact latestRec_le_maxTs h x p (by rw [latestRec_split r h x, hp])
  · intro hc x; simp only [llastMap, hl]; exact hi.last hc x
  · intro _ hn
    rw [hu] at hn; rw [hl]
    exact hi.lastStash hfr (lstashed_none hr hn).1

/-- combining the interval's latest sample with the older last report gives the latest sample overall -/
theorem olat_since_before (r : Nat) (h : List LOp) (x : Nat) (hinc : Increasing h) :
    olat (latestSince r h x) (latestBefore r h x) = latestRec h x := by
  rw [latestRec_split r h x]
  cases hs : latestSince r h x with
  | none => cases hb : latestBefore r h x <;> simp [olat, later']
  | some p =>
    cases hb : latestBefore r h x with
    | none => simp [olat]
    | some l =>
      have := before_lt_since r h x p l hinc hs hb
      simp [olat, later', later, this]

/-- the map a general-path collection by `r` reports holds, key by key, what the specification says -/
theorem linv_merged {c : Cfg} {h : List LOp} {s : LStorage} {r : Nat} (hi : LInv c h s r) (hr : r < c.n)
    (hinc : Increasing h) (x : Nat) :
    (lmergedFor s.temporal (c.temp r) r ((lstashed c.n s.temporal.unreported s.cur r).getD [])).lookup x =
      if c.temp r = .cumulative then latestRec h x else latestSince r h x := by
  have hnd := lstashed_nodup c.n s.temporal.unreported s.cur r hi.ndCur hi.ndStash
  have hfl := (lstashed_fold c.n s.temporal.unreported s.cur r hr x).trans (hi.pend x)
  cases ht : c.temp r with
  | delta => rw [lmergedFor, lookup_lmergeAll _ _ hnd, hfl]; rfl
  | cumulative =>
    rw [lmergedFor, lookup_lmergeInto _ _ x hi.ndLast, lookup_lmergeAll _ _ hnd, hfl, hi.last ht x, if_pos rfl]
    exact olat_since_before r h x hinc

/-- after the reader's own collection its interval is empty; what the invariant needs besides is what the collection
    did to the reader's last report -/
theorem linv_after_own {c : Cfg} {h : List LOp} {r : Nat} (ts : Nat) {t : LState} (hst : lstash t r = [])
    (hnd : LNoDup (llastMap t r)) (hlast : c.temp r = .cumulative → ∀ x, (llastMap t r).lookup x = latestRec h x)
    (hls : fastPath c.n (c.temp r) = false → t.unreported r = none → t.last r = none)
    (hns : fastPath c.n (c.temp r) = true → t.unreported r = none) :
    LInv c (.collect r ts :: h) ⟨[], t⟩ r := by
  refine { ndCur := trivial, ndStash := ?_, ndLast := hnd, pend := ?_, stashBound := ?_, last := ?_,
           lastStash := hls, noStash := hns }
  · rw [hst]; exact fun _ hm => nomatch hm
  · intro x; rw [hst]; simp [foldLat, olat, latestSince]
  · intro x p hp; rw [hst] at hp; cases hp
  · intro hc x; simpa [latestBefore] using hlast hc x

/-- a collection by reader `r` in a consistent state: the report has one point per attribute set and holds, key by
    key, what the specification says; the state is consistent with the history so extended -/
theorem lcollect_lookup (c : Cfg) (h : List LOp) (s : LStorage) (r ts : Nat) (hr : r < c.n) (hinc : Increasing h)
    (hi : LInv c h s r) :
    LNoDup (lpoints (lcollect c s r ts).2) ∧
    (∀ x, (lpoints (lcollect c s r ts).2).lookup x =
      match c.temp r with
      | .cumulative => latestRec h x
      | .delta => latestSince r h x) ∧
    LInv c (.collect r ts :: h) (lcollect c s r ts).1 r := by
  rw [lcollect_eq c s r ts hr]
  cases hf : fastPath c.n (c.temp r) with
  | true =>
    -- no stash on the fast path: what is pending is the current map, and that is what is reported
    obtain ⟨hp, hu, hlm⟩ := lbuild_fast c.n (c.temp r) s.temporal r ts s.cur hf
    have hns : (lbuild c.n (c.temp r) s.temporal r ts s.cur).1.unreported r = none := by rw [hu]; exact hi.noStash hf
    have hd : c.temp r = .delta := ((fastPath_iff _ _).mp hf).2
    refine ⟨by rw [hp]; exact hi.ndCur, fun x => ?_, ?_⟩
    · have hpend := hi.pend x
      simp only [lstash, hi.noStash hf, Option.getD_none, foldLat, List.foldl_nil] at hpend
      rw [hp, hd, ← hpend]; cases s.cur.lookup x <;> rfl
    · exact linv_after_own ts (hst := by rw [lstash, hns]; rfl) (hnd := hlm ▸ hi.ndLast)
        (hlast := fun hc => by rw [hd] at hc; cases hc) (hls := fun hf' => by rw [hf] at hf'; cases hf')
        (hns := fun _ => hns)
  | false =>
    obtain ⟨hp, hst, hlm, hls⟩ := lbuild_multi_self c.n (c.temp r) s.temporal r ts s.cur hf hr (hi.lastStash hf)
    refine ⟨by rw [hp]; exact LNoDup_lmergedFor _ _ _ _, fun x => ?_, ?_⟩
    · rw [hp, linv_merged hi hr hinc x]; cases c.temp r <;> rfl
    · exact linv_after_own ts (hst := hst) (hnd := hlm ▸ LNoDup_lmergedFor _ _ _ _)
        (hlast := fun hc x => by rw [hlm, linv_merged hi hr hinc x, if_pos hc]) (hls := fun _ => hls)
        (hns := fun hf' => by rw [hf] at hf'; cases hf')

theorem increasing_tail {op : LOp} {o : List LOp} (h : Increasing (op :: o)) : Increasing o := by
  cases op with
  | record a x => exact h.2
  | collect r ts => exact h

theorem increasing_append : ∀ (l rest : List LOp), Increasing (l ++ rest) → Increasing rest := by
  intro l rest h
  induction l with
  | nil => exact h
  | cons _ l ih => exact ih (increasing_tail h)

theorem linv_run (c : Cfg) : ∀ (h : List LOp), Increasing h → ∀ r, r < c.n → LInv c h (lrunRev c h) r := by
  intro h hinc r hr
  induction h with
  | nil => exact linv_init c r
  | cons op h ih =>
    have hi := ih (increasing_tail hinc)
    cases op with
    | record a x => exact linv_record c h _ r a x hinc.1 hi
    | collect r' ts =>
      show LInv c _ (lstep c (lrunRev c h) (.collect r' ts)).1 r
      by_cases hv : r' < c.n
      · by_cases he : r' = r
        · subst he; exact (lcollect_lookup c h _ r' ts hv hinc hi).2.2
        · cases hf : fastPath c.n (c.temp r') with
          | true =>
            -- the fast path is taken only when there is one reader
            have hn : c.n = 1 := ((fastPath_iff _ _).mp hf).1
            omega
          | false => exact linv_collect_other c h _ r' ts hv hf r hr he hi
      · -- a collector that does not exist: the operation does nothing
        have hc : (lstep c (lrunRev c h) (.collect r' ts)).1 = lrunRev c h := by simp [lstep, lcollect, hv]
        rw [hc]; exact linv_cons_other ts (by omega) hi

/-- with increasing sample times, after every history of
    records and collections by any readers, a cumulative reader receives for every attribute set the most recently
    recorded sample (and a point exactly for the sets ever recorded); a delta reader receives the most recent
    sample of its own interval. -/
theorem gauge_reports_latest (c : Cfg) (h : List LOp) (hinc : Increasing h) (r ts : Nat) (hr : r < c.n) (x : Nat) :
    (lpoints (lcollect c (lrunRev c h) r ts).2).lookup x =
      match c.temp r with
      | .cumulative => latestRec h x
      | .delta => latestSince r h x :=
  (lcollect_lookup c h _ r ts hr hinc (linv_run c h hinc r hr)).2.1 x

/-- the reported map has one point per attribute set -/
theorem gauge_points_nodup (c : Cfg) (h : List LOp) (hinc : Increasing h) (r ts : Nat) (hr : r < c.n) :
    LNoDup (lpoints (lcollect c (lrunRev c h) r ts).2) :=
  (lcollect_lookup c h _ r ts hr hinc (linv_run c h hinc r hr)).1

/-! ### synchronous gauges (ABI v2): always reported cumulatively -/

/-- the configuration in which every reader is treated as cumulative (`MetricCollector::GetAggregationTemporality`
    answers cumulative for a synchronous gauge whatever the reader asks for) -/
def allCumulative (c : Cfg) : Cfg := ⟨c.temps.map fun _ => .cumulative⟩

theorem allCumulative_n (c : Cfg) : (allCumulative c).n = c.n := by simp [allCumulative, Cfg.n]

theorem allCumulative_temp (c : Cfg) (r : Nat) : (allCumulative c).temp r = .cumulative := by
  simp only [allCumulative, Cfg.temp, List.getD_eq_getElem?_getD, List.getElem?_map]
  cases c.temps[r]? <;> rfl

def sgOfL (s : LStorage) : SGaugeStorage := ⟨s.cur, s.temporal⟩

def sgrunRev (c : Cfg) : List LOp → SGaugeStorage
  | [] => SGaugeStorage.init
  | .record a x :: o => sgrecord (sgrunRev c o) a x
  | .collect r ts :: o => (sgcollect c (sgrunRev c o) r ts).1

theorem sgcollect_eq (c : Cfg) (s : LStorage) (r ts : Nat) :
    sgcollect c (sgOfL s) r ts = (sgOfL (lcollect (allCumulative c) s r ts).1, (lcollect (allCumulative c) s r ts).2) := by
  simp only [sgcollect, lcollect, allCumulative_n, allCumulative_temp, sgOfL]
  split <;> rfl

theorem sgrun_eq (c : Cfg) : ∀ h : List LOp, sgrunRev c h = sgOfL (lrunRev (allCumulative c) h) := by
  intro h
  induction h with
  | nil => rfl
  | cons op o ih =>
    cases op with
    | record a x => simp only [sgrunRev, ih, lrunRev, lstep]; rfl
    | collect r ts => simp only [sgrunRev, ih, lrunRev, lstep, sgcollect_eq]

/-- for every history of `Record` calls and collections by any readers (delta or
    cumulative), with increasing sample times, a synchronous gauge reports, per attribute set, the most recently
    recorded value — and a point for exactly the sets ever recorded. -/
theorem gauge_reports_latest_sync (c : Cfg) (h : List LOp) (hinc : Increasing h) (r ts : Nat) (hr : r < c.n) (x : Nat) :
    (lpoints (sgcollect c (sgrunRev c h) r ts).2).lookup x = latestRec h x := by
  rw [sgrun_eq, sgcollect_eq]
  have := gauge_reports_latest (allCumulative c) h hinc r ts (by rw [allCumulative_n]; exact hr) x
  rw [allCumulative_temp] at this
  exact this

/-! ### observable gauges: `AsyncMetricStorage` with last-value aggregations -/

/-- one collection cycle as the observable gauge's storage sees it: the observations (already stamped with their
    sample times) recorded by the callbacks, then the collection -/
structure GCycle where
  obs : List (Nat × Sample)
  r : Nat
  ts : Nat

def gcycle (c : Cfg) (s : GaugeStorage) (cy : GCycle) : GaugeStorage × Option LData :=
  gcollect c (cy.obs.foldl (fun s kv => grecordOne s kv.1 kv.2) s) cy.r cy.ts

def grunRev (c : Cfg) : List GCycle → GaugeStorage
  | [] => GaugeStorage.init
  | cy :: o => (gcycle c (grunRev c o) cy).1

/-- the cycle's observations as record operations, most recent first -/
def gRecs (cy : GCycle) : List LOp := (cy.obs.map fun kv => LOp.record kv.1 kv.2).reverse

/-- the history of records and collections a history of cycles amounts to -/
def translateG : List GCycle → List LOp
  | [] => []
  | cy :: o => .collect cy.r cy.ts :: (gRecs cy ++ translateG o)

theorem lrunRev_records (c : Cfg) : ∀ (obs : List (Nat × Sample)) (rest : List LOp),
    lrunRev c ((obs.map fun kv => LOp.record kv.1 kv.2).reverse ++ rest) =
      { lrunRev c rest with cur := obs.foldl (fun m kv => lset m kv.1 kv.2) (lrunRev c rest).cur } := by
  intro obs
  induction obs with
  | nil => intro rest; simp
  | cons kv t ih =>
    intro rest
    have ih := ih (LOp.record kv.1 kv.2 :: rest)
    simp only [List.map_cons, List.reverse_cons, List.append_assoc, List.singleton_append, List.foldl_cons]
    rw [ih]; rfl

/-- the record loop of the observable gauge: with sample times above everything stored, both maps are updated
    exactly like a synchronous gauge's current map (`prev->Diff(new)` is `new`) — no hypothesis about repeated
    attribute sets is needed: the later observation simply wins -/
theorem grecord_fold : ∀ (obs : List (Nat × Sample)) (s : GaugeStorage) (rest : List LOp),
    (∀ x p, s.cumulative.lookup x = some p → p.ts ≤ maxTs rest) →
    Increasing ((obs.map fun kv => LOp.record kv.1 kv.2).reverse ++ rest) →
    obs.foldl (fun s kv => grecordOne s kv.1 kv.2) s =
      { s with cumulative := obs.foldl (fun m kv => lset m kv.1 kv.2) s.cumulative,
               delta := obs.foldl (fun m kv => lset m kv.1 kv.2) s.delta } ∧
    (∀ x p, (obs.foldl (fun m kv => lset m kv.1 kv.2) s.cumulative).lookup x = some p →
        p.ts ≤ maxTs ((obs.map fun kv => LOp.record kv.1 kv.2).reverse ++ rest)) := by
  intro obs
  induction obs with
  | nil => exact fun s rest hb _ => ⟨rfl, hb⟩
  | cons kv t ih =>
    intro s rest hb hinc
    simp only [List.map_cons, List.reverse_cons, List.append_assoc, List.singleton_append] at hinc ⊢
    have hinc1 : Increasing (LOp.record kv.1 kv.2 :: rest) := increasing_append _ _ hinc
    have hone : grecordOne s kv.1 kv.2 =
        { s with cumulative := lset s.cumulative kv.1 kv.2, delta := lset s.delta kv.1 kv.2 } := by
      unfold grecordOne
      cases hl : s.cumulative.lookup kv.1 with
      | none => rfl
      | some p =>
        have hlt : ¬ p.ts > kv.2.ts := by have := hb kv.1 p hl; have := hinc1.1; omega
        simp [later, hlt]
    have hb' : ∀ x p, (lset s.cumulative kv.1 kv.2).lookup x = some p → p.ts ≤ maxTs (LOp.record kv.1 kv.2 :: rest) := by
      intro x p hp
      rw [lookup_lset] at hp
      split at hp
      · cases hp; exact Nat.le_max_left ..
      · exact Nat.le_trans (hb x p hp) (Nat.le_max_right ..)
    simp only [List.foldl_cons]
    rw [hone]
    exact ih _ (LOp.record kv.1 kv.2 :: rest) hb' hinc

/-- the observable gauge's storage and the last-value storage it is compared with -/
structure GSim (h : List GCycle) (s : GaugeStorage) (t : LStorage) : Prop where
  delta : s.delta = []
  cur : t.cur = []
  temporal : s.temporal = t.temporal
  bound : ∀ x p, s.cumulative.lookup x = some p → p.ts ≤ maxTs (translateG h)

/-- one cycle of an observable gauge against the last-value storage run on the cycle's records and collection: same
    output, and the two are again in corresponding states -/
theorem gauge_cycle_step (c : Cfg) (o : List GCycle) (cy : GCycle) (hv : cy.r < c.n)
    (hinc : Increasing (translateG (cy :: o))) (s : GaugeStorage) (sim : GSim o s (lrunRev c (translateG o))) :
    (gcycle c s cy).2 = (lcollect c (lrunRev c (gRecs cy ++ translateG o)) cy.r cy.ts).2 ∧
    GSim (cy :: o) (gcycle c s cy).1 (lrunRev c (translateG (cy :: o))) := by
  obtain ⟨g1, g2⟩ := grecord_fold cy.obs s (translateG o) sim.bound hinc
  have hl : lrunRev c (gRecs cy ++ translateG o) =
      { lrunRev c (translateG o) with cur := cy.obs.foldl (fun m kv => lset m kv.1 kv.2) [] } := by
    rw [gRecs, lrunRev_records c cy.obs (translateG o), sim.cur]
  have hrun : lrunRev c (translateG (cy :: o)) = (lcollect c (lrunRev c (gRecs cy ++ translateG o)) cy.r cy.ts).1 := rfl
  rw [hrun, lcollect_eq c _ cy.r cy.ts hv, hl]
  -- both sides now run `lbuild` on the same temporal state and the same map of this cycle's samples
  simp only [gcycle, gcollect, hv, if_true, g1, sim.delta, sim.temporal]
  exact ⟨trivial, { delta := rfl, cur := rfl, temporal := rfl, bound := g2 }⟩

/-- for every history of cycles with increasing sample times, the observable gauge's storage corresponds to the
    last-value storage run on the translated history -/
theorem gsim_run (c : Cfg) : ∀ (o : List GCycle), (∀ y ∈ o, y.r < c.n) → Increasing (translateG o) →
    GSim o (grunRev c o) (lrunRev c (translateG o)) := by
  intro o hv hinc
  induction o with
  | nil => exact ⟨rfl, rfl, rfl, fun _ _ hp => nomatch hp⟩
  | cons cy o ih =>
    exact (gauge_cycle_step c o cy (hv cy (List.mem_cons_self ..)) hinc _
      (ih (fun y hy => hv y (List.mem_cons_of_mem _ hy)) (increasing_append (gRecs cy) _ hinc))).2

/-- for every history of collection cycles by any readers, with
    increasing sample times, an observable gauge reports to a cumulative reader, per attribute set, the most
    recently observed value, and to a delta reader the most recently observed value of its own interval. -/
theorem gauge_reports_latest_observable_cycle (c : Cfg) : ∀ (o : List GCycle) (cy : GCycle),
    (∀ y ∈ cy :: o, y.r < c.n) → Increasing (translateG (cy :: o)) → ∀ x,
    (lpoints (gcycle c (grunRev c o) cy).2).lookup x =
      match c.temp cy.r with
      | .cumulative => latestRec (gRecs cy ++ translateG o) x
      | .delta => latestSince cy.r (gRecs cy ++ translateG o) x := by
  intro o cy hv hinc x
  have hr := hv cy (List.mem_cons_self ..)
  rw [(gauge_cycle_step c o cy hr hinc _
    (gsim_run c o (fun y hy => hv y (List.mem_cons_of_mem _ hy)) (increasing_append (gRecs cy) _ hinc))).1]
  exact gauge_reports_latest c (gRecs cy ++ translateG o) hinc cy.r cy.ts hr x

/-- in particular: an attribute set observed in this cycle is reported with the value just observed (the last
    observation of the cycle for that set), to delta and cumulative readers alike -/
theorem gauge_reports_this_cycle (c : Cfg) (o : List GCycle) (cy : GCycle) (pre : List (Nat × Sample)) (x : Nat)
    (s : Sample) (hobs : cy.obs = pre ++ [(x, s)]) (hv : ∀ y ∈ cy :: o, y.r < c.n)
    (hinc : Increasing (translateG (cy :: o))) :
    (lpoints (gcycle c (grunRev c o) cy).2).lookup x = some s := by
  rw [gauge_reports_latest_observable_cycle c o cy hv hinc x]
  have : gRecs cy = LOp.record x s :: (pre.map fun kv => LOp.record kv.1 kv.2).reverse := by
    simp [gRecs, hobs]
  rw [this]
  cases c.temp cy.r <;> simp [latestRec, latestSince]

/-- the clock hypothesis is satisfiable, and the spec picks the later sample -/
example : Increasing [.record 1 ⟨7, 3⟩, .collect 0 1, .record 1 ⟨5, 2⟩, .record 2 ⟨9, 1⟩] ∧
    latestRec [.record 1 ⟨7, 3⟩, .collect 0 1, .record 1 ⟨5, 2⟩, .record 2 ⟨9, 1⟩] 1 = some ⟨7, 3⟩ := by
  refine ⟨?_, by decide⟩
  simp [Increasing, maxTs]

/-! ## What the theorems assume about the source text (re-extracted on every run into `Gen/MetricsTemporal.lean`) -/

/-- `AsyncMetricStorage::Record` computes `prev->Diff(new)` and `Set`s both maps; the last-value `Merge`/`Diff` keep
    `this` exactly when it is strictly later; `Observe` is one loop over `callbacks_` with one invocation per value
    type branch; the sum aggregation's `Diff` subtracts (sign -1: `recordOne` puts `new - prev` into the delta map) -/
theorem gen_async_facts : Gen.asyncRecordIsDiffAndSet = true ∧ Gen.lastValueKeepsThisWhenStrictlyLater = true ∧
    Gen.observeLoops = 1 ∧ Gen.observeInvocationSites = 2 ∧ Gen.longSumDiffSign = -1 := by decide

end Otel.C17
