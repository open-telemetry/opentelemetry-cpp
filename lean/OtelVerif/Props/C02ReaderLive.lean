import OtelVerif.Lemmas.ReaderLive
/-! # C02 for the periodic reader — "…and always return": progress

`reader_flush_served_within`: a `ForceFlush` ticket is published after at most 23 transitions of the worker and of its
per-cycle collect thread (the rest of a cycle that had begun before the ticket, then one whole cycle), whatever the
recorders, the other callers and `Shutdown` do in between, as long as no further ticket is issued.
`reader_worker_terminates_within`: once `shutdown_` is set the worker leaves its loop after at most 13 such transitions —
no assumption about the other threads — so the `join()` in `Shutdown` returns.  What is assumed is only that these two
threads keep being scheduled and that timed waits expire (`wcount` counts their transitions; an `Export` that never
returns is a collect thread that makes no transition).  Whether a published ticket means "exported" is
`reader_flush_complete_partial` (D17). -/
namespace Otel.C02Reader
open Otel Otel.Reader

theorem reader_flush_served_within (pre post : List Act) (s s' : St) (h0 : run init pre = some s)
    (h1 : run s post = some s') (hp : s'.pending = s.pending) (hfair : 23 ≤ wcount post) :
    s.pending ≤ s'.notified ∨ s'.shutdown = true :=
  served_of_wcount (reachable_inv pre s h0) (reachable_qc pre s h0) h1 hp (Nat.le_trans (rank_le s) hfair)

theorem reader_worker_terminates_within (pre post : List Act) (s s' : St) (h0 : run init pre = some s)
    (hsd : s.shutdown = true) (h1 : run s post = some s') (hfair : 13 ≤ wcount post) : s'.wpc = .done :=
  done_of_wcount (reachable_inv pre s h0) (reachable_qc pre s h0) hsd h1 (Nat.le_trans (exitRank_le s) hfair)

/-- … and then the `Shutdown` caller waiting for the worker can go on -/
theorem reader_join_enabled_when_done (s : St) (i : Nat) (hj : s.sd i = .set) (hd : s.wpc = .done) :
    (step s (.sStep i)).isSome = true := by
  simp only [step, sStep, hj, hd]
  split <;> simp

/-! ## Non-vacuity: a ticket, then a full cycle of worker and collect thread publishes it -/
def demoPre : List Act := [.record, .fStep 0 0 true, .fStep 0 0 true]        -- one measurement; ForceFlush begins, ticket 1
def demoCycle : List Act :=
  [.wStep false, .wStep false,                  -- start -> spawn -> waitF (collect thread started)
   .cStep, .cStep, .cStep, .cStep,              -- produce, cancelChk, exportB, exportE -> fin
   .wStep false, .wStep false,                  -- waitF -> joinC -> pubLd
   .wStep false, .wStep false, .wStep false,    -- pubLd -> pubCas, CAS succeeds, leaves to cvwait
   .wWake, .wStep false]                        -- cvwait -> loopChk -> start
def demoCycle2 : List Act :=
  [.wStep false, .wStep false, .cStep, .cStep, .cStep, .cStep, .wStep false, .wStep false,
   .wStep false,                                -- pubLd: nothing new to publish -> cvwait
   .wWake, .wStep false]
def demoPost : List Act := demoCycle ++ demoCycle2
example : (run init demoPre).map (fun s => (s.pending, s.notified)) = some (1, 0) := by decide
example : ((run init demoPre).bind (fun s => run s demoPost)).map (fun s => (s.pending, s.notified, s.covered)) = some (1, 1, 1) := by decide
example : 23 ≤ wcount demoPost := by decide

end Otel.C02Reader
