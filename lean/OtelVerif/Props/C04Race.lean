import OtelVerif.Lemmas.SpanLock
import OtelVerif.Gen.SpanLock
/-! # C04, concurrency clause — mutators racing `End` on one span

"for every sequence of span operations (including operations after End **and from several threads on one span**)":
theorems about `Model/SpanLock.lean`, for EVERY interleaving of the lock / test / write / hand-off / unlock steps of any
number of threads calling the mutators, `End` and `IsRecording` of one recording span (no bound on the number of threads,
calls or steps): one inductive invariant (`Otel.SpanLock.Inv`, `reachable_inv`) and from it

* no setter is ever called through a null `recordable_` (`no_null_deref`, `write_holds_lock_and_recordable`);
* `OnEnd` is called at most once, with exactly the log of the writes; exactly once as soon as some `End` has returned
  (`onend_at_most_once`, `handed_off_is_the_log`, `onend_exactly_once_when_end_returned`);
* that log is in lock-acquisition order (`handed_off_in_acquisition_order`, `log_follows_acquisition_order`) and nothing
  reaches it after the hand-off (`frozen_after_handoff`);
* a mutator racing `End` is wholly in the exported span or wholly ignored: a call that began after an `End` returned is
  ignored (`late_mutator_ignored`), a call that returns before any `End` began was applied (`early_mutator_recorded`,
  `applied_in_log`); `IsRecording` is false after an `End` returned and true before any began
  (`is_recording_false_after_end`, `is_recording_true_before_end`).

The step structure the model assumes — every mutator takes `mu_` *before* it tests `recordable_`, `End` holds `mu_` from
its `has_ended_` test to the hand-off — is re-extracted from `span.cc` on every run (`gen_span_lock_facts`); real
executions of the unmodified `span.cc` under the deterministic scheduler are replayed on the model (`Model/SpanLock.lean`
`astep`, `replay_sound`). -/
namespace Otel.C04Race
open Otel Otel.SpanLock

/-- does a thread at this program counter hold `mu_`? -/
def holds : Pc → Bool
  | .mChk _ _ => true
  | .mWrite _ _ => true
  | .mUnlock _ _ _ => true
  | .eChk => true
  | .eDur => true
  | .eHand => true
  | .eUnlock => true
  | .rRead _ => true
  | .rUnlock _ _ => true
  | _ => false

theorem holds_lock {s : St} (hI : Inv s) (t : Nat) (ht : holds (s.pc t) = true) : s.lock = some t := by
  have h := hI.th t
  unfold TInv at h
  generalize s.pc t = p at h ht
  cases p <;> first | exact h.1 | cases ht

theorem pendPc_null (p : Pc) (e : Bool) : pendPc p false e = [] := by
  unfold pendPc; split <;> rfl

theorem pendPc_length (p : Pc) (r e : Bool) : (pendPc p r e).length ≤ 1 := by
  unfold pendPc; split <;> (try split) <;> simp

section reachable
variable {as : List Act} {s : St} (h : run init as = some s)
include h

/-- **mutual exclusion**: the critical sections of `span.cc` (test, write, hand-off) never overlap -/
theorem mutual_exclusion (t t' : Nat) (ht : holds (s.pc t) = true) (ht' : holds (s.pc t') = true) : t = t' :=
  Lock.holder_unique (holds_lock (reachable_inv as s h) t ht) (holds_lock (reachable_inv as s h) t' ht')

/-- **no crash**: no setter of the recordable is ever called through a null `recordable_` -/
theorem no_null_deref : s.nullDerefs = 0 := (reachable_inv as s h).nd

/-- a thread about to call a setter holds `mu_`, the recordable is live and holds exactly the log so far, and the call
    did not begin after an `End` returned -/
theorem write_holds_lock_and_recordable (t : Nat) (m : Mut) (l : Bool) (hp : s.pc t = .mWrite m l) :
    s.lock = some t ∧ s.rcd = some s.log ∧ l = false := by
  have hI := reachable_inv as s h
  have ht := (TInv_at hp).mp (hI.th t)
  refine ⟨ht.1, ?_, ht.2.1⟩
  cases hr : s.rcd with
  | none => exact absurd hr ht.2.2
  | some w => rw [hI.rl w hr]

/-- **the handed-off recordable is the log**: either `OnEnd` has not been called and `recordable_` holds the writes so
    far, or it has been called exactly once, with exactly the log of the writes, and `recordable_` is null -/
theorem handed_off_is_the_log : (s.onEnds = [] ∧ s.rcd = some s.log) ∨ (s.onEnds = [some s.log] ∧ s.rcd = none) :=
  (handoff_of (reachable_inv as s h)).imp_left fun h1 => ⟨h1.1, h1.2.1⟩

/-- **`OnEnd` at most once**, however many `End` calls race -/
theorem onend_at_most_once : s.onEnds.length ≤ 1 := by
  rcases handed_off_is_the_log h with h1 | h1 <;> rw [h1.1] <;> simp

/-- **`OnEnd` exactly once when some `End` has returned** — also the `End` of a thread that lost the race: it returns
    only after the winner has handed the recordable over -/
theorem onend_exactly_once_when_end_returned (hr : s.endReturned = true) : s.onEnds = [some s.log] ∧ s.rcd = none := by
  rcases handed_off_is_the_log h with h1 | h1
  · rw [returned_null (reachable_inv as s h) hr] at h1; cases h1.2
  · exact h1

/-- the log follows the order in which the calls acquired `mu_`: `acq` (calls that acquired the lock while the span was
    recording, `End` counted as its `SetDuration`) is the log plus at most the one call that holds the lock now -/
theorem log_follows_acquisition_order : ∃ x, s.acq = s.log ++ x ∧ x.length ≤ 1 := by
  refine ⟨pend s, (reachable_inv as s h).aq, ?_⟩
  unfold pend
  split
  · exact Nat.zero_le 1
  · exact pendPc_length _ _ _

/-- **what `OnEnd` received = the calls in lock-acquisition order** -/
theorem handed_off_in_acquisition_order (w : List Mut) (hw : s.onEnds = [some w]) : w = s.acq ∧ w = s.log := by
  rcases handed_off_is_the_log h with h1 | h1 <;> rw [h1.1] at hw <;> cases hw
  refine ⟨?_, rfl⟩
  have : pend s = [] := by
    unfold pend
    split
    · rfl
    · rw [h1.2]; exact pendPc_null _ _
  rw [(reachable_inv as s h).aq, this, List.append_nil]

/-- **a mutator that began after an `End` had returned is ignored** (it never reaches the recordable) -/
theorem late_mutator_ignored (t : Nat) (m : Mut) (a : Bool) (hp : s.pc t = .mUnlock m true a) : a = false :=
  ((TInv_at hp).mp ((reachable_inv as s h).th t)).2.1 rfl

/-- **a mutator that returns before any `End` call began was applied** (contrapositive: it is only ignored when some
    `End` call has already begun) -/
theorem early_mutator_recorded (t : Nat) (m : Mut) (l : Bool) (hp : s.pc t = .mUnlock m l false) : s.endBegun = true :=
  ((TInv_at hp).mp ((reachable_inv as s h).th t)).2.2.1 rfl

/-- an applied mutation is in the log (and stays there: `frozen_after_handoff`, `log_only_grows`) -/
theorem applied_in_log (t : Nat) (m : Mut) (l : Bool) (hp : s.pc t = .mUnlock m l true) : m ∈ s.log :=
  ((TInv_at hp).mp ((reachable_inv as s h).th t)).2.2.2 rfl

/-- **`IsRecording` is false once an `End` has returned** -/
theorem is_recording_false_after_end (t : Nat) (b : Bool) (hp : s.pc t = .rDone true b) : b = false :=
  ((TInv_at hp).mp ((reachable_inv as s h).th t)).1 rfl

/-- **`IsRecording` is true until some `End` call has begun** -/
theorem is_recording_true_before_end (t : Nat) (l : Bool) (hp : s.pc t = .rDone l false) : s.endBegun = true :=
  ((TInv_at hp).mp ((reachable_inv as s h).th t)).2 rfl

/-- **nothing reaches the recordable after the hand-off**: once `OnEnd` has been called, no step of any thread changes
    the log or calls `OnEnd` again -/
theorem frozen_after_handoff (a : Act) (s' : St) (hon : s.onEnds ≠ []) (ha : act s a = some s') :
    s'.log = s.log ∧ s'.onEnds = s.onEnds := by
  have hI := reachable_inv as s h
  cases a with
  | call t op => exact call_effect ha
  | step t =>
    -- the recordable is null, so no setter is called; and the hand-off has been made, by the one thread that could make it
    obtain ⟨hlog, hends⟩ := step_effect ha
    rcases handed_off_is_the_log h with h1 | h1
    · exact absurd h1.1 hon
    refine ⟨hlog.resolve_right fun ⟨_, hr, _⟩ => hr h1.2, hends.resolve_right fun hp => ?_⟩
    have ht := (TInv_at hp).mp (hI.th t)
    rcases (hI.post t ht.2).2.2 with h2 | h2
    · exact hon h2.2.2.1
    · exact h2.1 (hp ▸ .inr rfl)

end reachable

/-- the log only grows, by steps that hold the lock -/
theorem log_only_grows (s s' : St) (a : Act) (ha : act s a = some s') : ∃ x, s'.log = s.log ++ x := by
  cases a with
  | call t op => exact ⟨[], by rw [(call_effect ha).1, List.append_nil]⟩
  | step t =>
    rcases (step_effect ha).1 with hl | ⟨m, _, hl⟩
    · exact ⟨[], by rw [hl, List.append_nil]⟩
    · exact ⟨[m], hl⟩

/-- **the refinement check is sound**: a real execution whose events the replay accepts passes only through states of
    the model, so everything above holds of what it computed -/
theorem replay_sound (es : List Ev) (s : St) (h : arun init es = some s) :
    s.nullDerefs = 0 ∧ s.onEnds.length ≤ 1 ∧ (s.endReturned = true → s.onEnds = [some s.log] ∧ s.rcd = none) := by
  obtain ⟨as, h1⟩ := arun_run es init s h
  exact ⟨no_null_deref h1, onend_at_most_once h1, onend_exactly_once_when_end_returned h1⟩

/-- the facts of the source text the step structure stands on (re-extracted from `span.cc` on every run): every member
    function that touches `recordable_` / `has_ended_` (the mutators, `End`, `IsRecording`; at least the nine of ABI v1)
    declares a lock guard on `mu_` at its top level BEFORE the first such use and never releases it early; `End` tests
    and latches `has_ended_` and calls `OnEnd(std::move(recordable_))`, once, inside that same critical section -/
theorem gen_span_lock_facts :
    Gen.spanLockGuardBeforeFirstUse = true ∧ Gen.spanLockHeldToReturn = true ∧ Gen.spanEndHandsOffUnderLock = true ∧
    Gen.spanGuardedFunctions ≥ 9 := by decide

/-! ## Non-vacuity -/

/-- `SetAttribute` (thread 1) racing `End` (thread 0), the mutator gets the lock first: it is in the exported span -/
def raceIn : List Act :=
  [.call 0 .endSpan, .call 1 (.mutate (.attr 7 100)), .step 1, .step 1, .step 1, .step 1,
   .step 0, .step 0, .step 0, .step 0, .step 0]
example : (run init raceIn).map (fun s => (s.onEnds, s.rcd, s.nullDerefs, s.endReturned)) =
    some ([some [.attr 7 100, .dur]], none, 0, true) := rfl

/-- the same race, `End` gets the lock first: the mutator is wholly ignored, `IsRecording` says false afterwards, a
    second `End` does nothing -/
def raceOut : List Act :=
  [.call 0 .endSpan, .call 1 (.mutate (.attr 7 100)), .step 0, .step 0, .step 0, .step 0, .step 0,
   .step 1, .step 1, .step 1, .call 2 .isRec, .step 2, .step 2, .step 2, .call 1 .endSpan, .step 1, .step 1, .step 1]
example : (run init raceOut).map (fun s => (s.onEnds, s.rcd, s.nullDerefs, s.pc 2, s.acq)) =
    some ([some [.dur]], none, 0, .rDone true false, [.dur]) := rfl

/-- the lock excludes: while thread 0 is between its test and the hand-off, thread 1 cannot take a step -/
example : (run init [.call 0 .endSpan, .call 1 (.mutate (.event 1)), .step 0, .step 0, .step 1]) = none := by decide

/-- the hypotheses of the per-thread theorems are reachable -/
example : ∃ as s, run init as = some s ∧ s.pc 1 = .mUnlock (.attr 7 100) true false :=
  ⟨[.call 0 .endSpan, .step 0, .step 0, .step 0, .step 0, .step 0, .call 1 (.mutate (.attr 7 100)), .step 1, .step 1], _, rfl, by decide⟩

end Otel.C04Race
