import OtelVerif.Lemmas.BatchRing.Enable
/-! # C01, end to end: the batch protocol on top of the real lock-free queue

`Props/C01.lean` states C01 on the protocol model, whose queue is two counters, and cites C11 for the queue behind them.
Here the citation is replaced by a proof: in the composed model (`Model/BatchRing.lean`) a producer's `Add` runs on the
ring access by access, the worker's `Consume` is the ring's, and the protocol model only sees the outcomes.  Every
reachable state satisfies the ring's invariants, the protocol's invariant and the coupling between them
(`Otel.BatchRing.reachable`), the pairing never blocks on a guard of the protocol model (`commit_enabled`,
`drop_enabled`, `consume_enabled`, `add_begins`, `clearing_progress`), and the end-to-end statements below follow.
`s.r.log` is the commit order of the queue (element ids), `s.r.out` what the worker's callback has taken out, in order;
the worker hands `Export` what it took out, batch by batch, and `s.b.exported` counts what has been handed over. -/
namespace Otel.C01
open Otel Otel.BatchRing

section composed
variable {maxQ maxB : Nat} (hq : 1 ≤ maxQ) (hb : 1 ≤ maxB) {as : List BatchRing.Act} {s : BatchRing.St}
  (h : BatchRing.run (BatchRing.init maxQ maxB) as = some s)
include hq hb h

/-- **exactly once, in commit order**: what has been handed to the exporter so far is the first `exported` elements of
    the commit log — each accepted record at most once (the log has no duplicates), none that was not accepted, in the
    order the queue committed them -/
theorem delivered_is_log_prefix :
    s.r.out.take s.b.exported = s.r.log.take s.b.exported ∧ s.r.log.Nodup ∧ s.b.exported ≤ s.r.out.length ∧
    s.r.log.length = s.b.head := by
  obtain ⟨hJ, hI⟩ := BatchRing.reachable maxQ maxB hq hb as s h
  have ho := hI.ri.outEq
  have hl := hI.ri.logLen
  have h1 := hI.ri.clrLe; have h2 := hI.ri.tailLe
  have he := hJ.exp
  refine ⟨?_, hI.ri2.logNodup, ?_, by rw [hl, hJ.hd]⟩
  · rw [ho, List.take_take, Nat.min_eq_left he]
  · rw [ho, List.length_take, hl]; omega

/-- **each producer's records reach the exporter in the order that producer ended them**: the commit log restricted to
    one producer is increasing in the producer's own call order (element ids are issued in call order) -/
theorem per_producer_order (p : Nat) : (s.r.log.filter (fun e => s.r.own e == p)).Pairwise (· < ·) :=
  (BatchRing.reachable maxQ maxB hq hb as s h).2.ri2.ownSorted p

/-- **everything accepted before shutdown is delivered**: once the worker has finished (which every returning `Shutdown`
    waits for), what the worker took out of the queue is exactly what was handed to `Export`, it is a prefix of the
    commit log, and that prefix covers every record committed before `is_shutdown` was set -/
theorem accepted_delivered_at_shutdown_e2e (hd : s.b.wpc = .done) :
    s.r.out = s.r.log.take s.b.exported ∧ s.b.sdHead ≤ s.b.exported ∧ s.r.clr = s.b.exported := by
  obtain ⟨hJ, hI⟩ := BatchRing.reachable maxQ maxB hq hb as s h
  obtain ⟨hsd, het⟩ := hI.bi.at_done hd
  -- the worker is not between `tail_ += n` and `Export`, so every slot it took has been cleared
  have hc : s.r.clr = s.r.tail := hJ.clr (by intro r n T R num; rw [hd]; exact nofun)
  have hce : s.r.clr = s.b.exported := by rw [hc, hJ.tl, het]
  exact ⟨by rw [hI.ri.outEq, hce], hsd, hce⟩

/-- the queue never holds more than `max_queue_size` records -/
theorem queue_bounded : s.b.head - s.b.tail ≤ maxQ := by
  obtain ⟨hJ, hI⟩ := BatchRing.reachable maxQ maxB hq hb as s h
  have := hI.ri.sizeLe
  have hc := hJ.cap
  have hmq : s.b.maxQ = maxQ := BatchRing.maxQ_run as _ s h
  rw [hJ.hd, hJ.tl] at this
  omega

/-- **dropped only because the queue was at capacity**: the protocol model counts a drop exactly when an `Add` on the
    ring returns false, and then the `Add` calls begun before it returned (itself excluded) minus the records the worker
    had taken out when it began are at least `max_queue_size` -/
theorem drop_is_a_failed_add (p : Nat) (s' : BatchRing.St) (hs : BatchRing.step s (.add (.pLdHead p)) = some s')
    (hdrop : s'.b.dropped = s.b.dropped + 1) : (s.r.nextId - 1) - Ring.c0Of s.r p ≥ maxQ ∧ Ring.pcOf s'.r p = .idle := by
  obtain ⟨hJ, hI⟩ := BatchRing.reachable maxQ maxB hq hb as s h
  obtain ⟨r', b'⟩ := s'
  simp only [BatchRing.step] at hs
  split at hs
  · split at hs
    · rename_i t hpc
      rw [Ring.step_pLdHead.2 ⟨t, hpc, rfl⟩] at hs
      split at hs
      · rename_i hfull
        have hf := Ring.full_justified hI.ri hI.ri2 hpc hfull
        obtain ⟨h1, -⟩ := pair_some hs
        cases h1
        refine ⟨?_, by rw [Ring.pcOf_setPc rfl, if_pos rfl]⟩
        have hcap := hJ.cap
        have hmq : s.b.maxQ = maxQ := BatchRing.maxQ_run as _ s h
        omega
      · -- not full: the protocol side does not move, so `dropped` cannot have changed
        obtain ⟨h1, -⟩ := onlyR_some hs
        rw [h1] at hdrop
        exact absurd hdrop (Nat.ne_of_lt (Nat.lt_succ_self _))
    · cases hs
  · cases hs

end composed

/-! ## Non-vacuity: one record travels through the ring to the exporter in the composed model -/
def demoCompose : List BatchRing.Act :=
  [.prod 0, .chk 0,                                                      -- OnEnd begins, is_shutdown false: Add begins
   .add (.pLdTail 0), .add (.pLdHead 0), .add (.pSwap 0 false), .add (.pCas 0 false),   -- Add: commit
   .prod 0,                                                              -- OnEnd returns
   .wWake, .wStep, .wStep, .wStep,                                       -- worker: chk, ticket, size
   .wStep,                                                               -- tail_ += 1 (ring cTake 1)
   .clear,                                                               -- the callback moves the record out
   .wStep, .wStep]                                                       -- Export called, Export returns
example : (BatchRing.run (BatchRing.init 2 1) demoCompose).map (fun s => (s.r.log, s.r.out, s.b.exported, s.b.head, s.r.clr)) =
    some ([0], [0], 1, 1, 1) := by decide

end Otel.C01
