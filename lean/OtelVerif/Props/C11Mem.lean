import OtelVerif.Lemmas.RelAcqSpin
import OtelVerif.Lemmas.RelAcqSlot
import OtelVerif.Lemmas.RingStale
import OtelVerif.Lemmas.Ring.Full
import OtelVerif.Lemmas.RelAcqHeadTail
/-! # C11, weak-memory part: the spin lock and the ring's slot hand-off under the C++ memory orders actually written

`Props/C11.lean` proves C11 of sequentially consistent models.  The sources use `relaxed` / `acquire` / `release`
(`Gen/MemOrder.lean`, re-extracted on every run).  This module proves, on the view-based release/acquire memory of
`Model/RelAcq.lean` - **every interleaving, every choice of which (possibly stale) message a load reads, any number of
threads, no bound on steps** -

* (a) the spin-lock client (`Model/RelAcqSpin.lean`): no data race on the plain cell, mutual exclusion, and every
  critical section reads exactly what the previous one wrote;
* (b) the slot hand-off (`Model/RelAcqSlot.lean`): whoever gets a pointer out of a slot by `exchange` reads the payload
  without a data race and sees what the producer wrote, the producer's own undo path included;
* (c) `gen_orders_sufficient`: the orders in the source satisfy the preconditions of (a), (b) and of
  `headtail_pairs_ordered` (every pair (tail, head) that `Add` reads has `tail ≤ head`); and what the SC theorems need of
  the loads of `head_` / `tail_` in `Add` (`Model/RingStale.lean`): nothing for safety, a visibility assumption for the
  failure justification.

Each of (a), (b) comes with kernel-checked executions showing that a weakened order does produce a data race. -/
namespace Otel.C11Mem
open Otel Otel.RelAcq

/-- `SpinLockMutex`: both `flag_.exchange` acquire or stronger, `unlock`'s store release or stronger -/
theorem gen_spin_orders_sufficient : Spin.genOrders.ok = true := by decide
/-- `AtomicUniquePtr`: `SwapIfNull`'s successful compare_exchange release or stronger, the exchanges of `Swap` / `Reset`
    acquire or stronger -/
theorem gen_slot_orders_sufficient : Slot.genOrders.ok = true := by decide
/-- `CircularBuffer`: `tail_ += n` release or stronger, `Add`'s load of `tail_` acquire or stronger -/
theorem gen_headtail_orders_sufficient : HT.genOrders.ok = true := by decide

/-- weakening any of these orders in the source makes the corresponding `decide` above fail -/
theorem gen_orders_sufficient : Spin.genOrders.ok = true ∧ Slot.genOrders.ok = true ∧ HT.genOrders.ok = true :=
  ⟨gen_spin_orders_sufficient, gen_slot_orders_sufficient, gen_headtail_orders_sufficient⟩

/-- the orders of the source as a fixed record (the demonstrations and witnesses below use these fixed records, not
    the generated ones, so that a *strengthened* order in the source changes nothing but `Gen/MemOrder.lean`) -/
def spinSrc : Spin.Orders := { tryLoad := .rlx, tryXchg := .acq, lockXchg := .acq, unlockSt := .rel }
def slotSrc : Slot.Orders := { casOk := .rel, casFail := .rlx, swapX := .sc, resetX := .sc }

example : spinSrc.ok = true ∧ slotSrc.ok = true := by decide
/-- `ok` is monotone: it only asks for "at least acquire" / "at least release" -/
example : ({ tryLoad := .sc, tryXchg := .sc, lockXchg := .acqRel, unlockSt := .sc } : Spin.Orders).ok = true ∧
    ({ casOk := .sc, casFail := .acq, swapX := .acq, resetX := .acqRel } : Slot.Orders).ok = true := by decide

section spin
open Spin
variable {o : Spin.Orders} (hok : o.ok = true) {acts : List Spin.Act} {s : Spin.St} (h : Spin.run o Spin.init acts = some s)
include hok h

/-- **no data race is ever flagged** on the plain cell -/
theorem spin_no_data_race : s.m.race = false := (Spin.reachable_inv hok h).noRace

/-- **mutual exclusion** holds on release/acquire memory too -/
theorem spin_mutual_exclusion (p q : Nat) (hp : Holds s p) (hq : Holds s q) : p = q :=
  (Spin.reachable_inv hok h).unique p q hp hq

/-- a thread in the critical section has seen **every** access to the cell so far (its view of the cell is the cell's
    access clock): the happens-before edge unlock → lock is there -/
theorem spin_holder_view_current (p : Nat) (hp : Holds s p) : cv s.m p cellL = (s.m.na cellL).clk :=
  (Spin.reachable_inv hok h).holderV p hp

/-- **the cell behaves sequentially**: the completed critical sections (newest first) are chained - each read the
    value the one before it wrote (the first one the initial 0) - and the cell holds what the newest one wrote -/
theorem spin_cell_sequential : Chained s.hist ∧ (s.m.na cellL).val = lastWritten s.hist :=
  ⟨(Spin.reachable_inv hok h).chained, (Spin.reachable_inv hok h).cellVal⟩

/-- no lost update: the cell counts the completed critical sections -/
theorem spin_no_lost_update : (s.m.na cellL).val = s.hist.length :=
  (Spin.reachable_inv hok h).cellVal.trans (Spin.reachable_inv hok h).counts

/-- the read of a critical section returns exactly what the previous critical section wrote -/
theorem spin_reads_previous_write (p : Nat) (s' : Spin.St) (hs : Spin.step o s (.csRead p) = some s') :
    s'.pcs p = .csWrite (lastWritten s.hist) := by
  simp only [Spin.step] at hs
  split at hs
  · cases hs
    simp only [Spin.setPc, Ring.upd_same, naRead_val]
    rw [(Spin.reachable_inv hok h).cellVal]
  · cases hs

end spin

/-- (a) for the orders in the source -/
theorem spin_gen_race_free (acts : List Spin.Act) (s : Spin.St) (h : Spin.run Spin.genOrders Spin.init acts = some s) :
    s.m.race = false ∧ (∀ p q, Spin.Holds s p → Spin.Holds s q → p = q) ∧ Spin.Chained s.hist ∧
      (s.m.na Spin.cellL).val = s.hist.length :=
  ⟨spin_no_data_race gen_orders_sufficient.1 h, spin_mutual_exclusion gen_orders_sufficient.1 h,
   (spin_cell_sequential gen_orders_sufficient.1 h).1, spin_no_lost_update gen_orders_sufficient.1 h⟩

/-- the hypothesis is satisfiable: three threads, two critical sections; thread 1's `lock()` exchange fails while
    thread 0 holds the lock; thread 2 gets in through `try_lock` after a **stale** test load (message 0 of `flag_`,
    although four messages exist) -/
def spinDemo : List Spin.Act :=
  [.begin 0 false, .xchg 0, .csRead 0, .begin 1 false, .xchg 1, .csWrite 0, .unlock 0,
   .begin 2 true, .load 2 0, .xchg 2, .csRead 2, .csWrite 2, .unlock 2]

example : (Spin.run spinSrc Spin.init spinDemo).map (fun s => (s.m.race, s.hist, (s.m.na Spin.cellL).val)) =
    some (false, [(1, 2), (0, 1)], 2) := by decide

/-- a stale test load misleads `try_lock` only as far as its `exchange`: with the lock held (latest message `true`)
    thread 2 still reads message 0 (`false`) and goes on to the exchange, which reads the latest message and fails -/
example : ((Spin.run spinSrc Spin.init [.begin 0 false, .xchg 0, .begin 2 true, .load 2 0]).map
    (fun s => (s.m.latestVal Spin.flagL, s.pcs 2))) = some (1, .txchg) := by decide
example : ((Spin.run spinSrc Spin.init [.begin 0 false, .xchg 0, .begin 2 true, .load 2 0, .xchg 2]).map
    (fun s => (s.pcs 0, s.pcs 2))) = some (.csRead, .idle) := by decide
/-- coherence: a thread that has exchanged cannot read an older message afterwards -/
example : (Spin.run spinSrc Spin.init [.begin 0 false, .xchg 0, .begin 1 false, .xchg 1, .begin 1 true, .load 1 0]).isNone = true := by decide

/-- the hypothesis of `spin_gen_race_free` is satisfiable by the same schedule (enabledness does not depend on the orders) -/
example : (Spin.run Spin.genOrders Spin.init spinDemo).isSome = true := by decide

def spinRacy : List Spin.Act :=
  [.begin 0 false, .xchg 0, .csRead 0, .csWrite 0, .unlock 0, .begin 1 false, .xchg 1, .csRead 1]

/-- `unlock` with a relaxed store: the next holder's read of the cell races with the previous holder's write -/
theorem spin_relaxed_unlock_witness :
    (Spin.run { spinSrc with unlockSt := .rlx } Spin.init spinRacy).map (fun s => s.m.race) = some true := by decide

/-- `lock()`'s exchange relaxed -/
theorem spin_relaxed_lock_witness :
    (Spin.run { spinSrc with lockXchg := .rlx } Spin.init spinRacy).map (fun s => s.m.race) = some true := by decide

/-- `try_lock()`'s exchange relaxed -/
theorem spin_relaxed_trylock_witness :
    (Spin.run { spinSrc with tryXchg := .rlx } Spin.init
      [.begin 0 false, .xchg 0, .csRead 0, .csWrite 0, .unlock 0, .begin 1 true, .load 1 2, .xchg 1, .csRead 1]).map
      (fun s => s.m.race) = some true := by decide

/-- hence race freedom is **false** for the weakened orders: the theorem above is not vacuous and its hypothesis `ok`
    cannot be dropped -/
theorem spin_weakened_not_race_free :
    ¬ (∀ (o : Spin.Orders) (acts : List Spin.Act) (s : Spin.St), Spin.run o Spin.init acts = some s → s.m.race = false) := by
  intro hall
  obtain ⟨s, hs, hrace⟩ := Option.map_eq_some_iff.1 spin_relaxed_unlock_witness
  rw [hall _ _ s hs] at hrace; cases hrace

/-- mutual exclusion itself does not depend on the orders (it only needs the atomicity of `exchange`): in the racy run
    both threads were never inside together - the race is on the data, through the missing happens-before edge -/
example : (Spin.run { spinSrc with unlockSt := .rlx } Spin.init spinRacy).map (fun s => (s.pcs 0, s.pcs 1)) =
    some (.idle, .csWrite 1) := by decide

section slot
open Slot
variable {o : Slot.Orders} (hok : o.ok = true) {acts : List Slot.Act} {s : Slot.St} (h : Slot.run o Slot.init acts = some s)
include hok h

/-- **no data race** on any payload, whoever ends up with the pointer -/
theorem slot_no_data_race : s.m.race = false := (Slot.reachable_inv hok h).noRace

/-- **every read of a payload** - by a taker that exchanged the pointer out of a slot, by the producer on its undo path,
    by the caller of a failed `Add` - **sees what the producer wrote** -/
theorem slot_reads_initialised (t e v : Nat) (hx : (t, e, v) ∈ s.seen) : v = content e :=
  (Slot.reachable_inv hok h).seenOk _ hx

/-- a thread that has an element in hand (in particular right after the `exchange` that gave it the pointer) has seen
    every access to its payload so far -/
theorem slot_holder_view_current (t e : Nat) (ht : holdsEl (s.pcs t) = some e) :
    cv s.m t (payL e) = (s.m.na (payL e)).clk := (Slot.reachable_inv hok h).holdV t e ht

/-- an element is in at most one place: one thread's hands or one slot -/
theorem slot_single_owner (t t' e i j : Nat) :
    (holdsEl (s.pcs t) = some e → holdsEl (s.pcs t') = some e → t = t') ∧
    (holdsEl (s.pcs t) = some e → s.m.latestVal (slotL i) ≠ ptr e) ∧
    (s.m.latestVal (slotL i) = ptr e → s.m.latestVal (slotL j) = ptr e → i = j) :=
  let hI := Slot.reachable_inv hok h
  ⟨hI.holdUniq t t' e, hI.holdNoSlot t e i, hI.slotUniq i j e⟩

end slot

/-- (b) for the orders in the source -/
theorem slot_gen_race_free (acts : List Slot.Act) (s : Slot.St) (h : Slot.run Slot.genOrders Slot.init acts = some s) :
    s.m.race = false ∧ ∀ t e v, (t, e, v) ∈ s.seen → v = Slot.content e :=
  ⟨slot_no_data_race gen_orders_sufficient.2.1 h, slot_reads_initialised gen_orders_sufficient.2.1 h⟩

/-- satisfiable, with both paths: producer 0 publishes element 0 into slot 0, its `head_` CAS fails, it takes the
    element back (`undo`), reads it, publishes it again into slot 1 and commits; thread 1 takes it out with `Reset`, reads
    and destroys it.  Producer 2's element 1 is published and taken with `Swap`. -/
def slotDemo : List Slot.Act :=
  [.start 0, .init 0, .casOk 0 0, .undo 0, .chk 0, .start 2, .init 2, .casFail 2 0 0 true, .casOk 0 1, .commit 0,
   .take 1 1 true, .tread 1, .casOk 2 0, .commit 2, .tdel 1, .take 1 0 false, .tread 1, .tdel 1]

example : (Slot.run slotSrc Slot.init slotDemo).map (fun s => (s.m.race, s.seen)) =
    some (false, [(1, 1, 2), (1, 0, 1), (0, 0, 1)]) := by decide

example : (Slot.run Slot.genOrders Slot.init slotDemo).isSome = true := by decide

def slotRacy : List Slot.Act := [.start 0, .init 0, .casOk 0 0, .commit 0, .take 1 0 false, .tread 1]

/-- the slot CAS relaxed: the taker's read of the payload races with the producer's initialisation -/
theorem slot_relaxed_cas_witness :
    (Slot.run { slotSrc with casOk := .rlx } Slot.init slotRacy).map (fun s => s.m.race) = some true := by decide

/-- the taking exchange relaxed (`Swap`) -/
theorem slot_relaxed_swap_witness :
    (Slot.run { slotSrc with swapX := .rlx } Slot.init slotRacy).map (fun s => s.m.race) = some true := by decide

/-- the taking exchange relaxed (`Reset`) -/
theorem slot_relaxed_reset_witness :
    (Slot.run { slotSrc with resetX := .rlx } Slot.init
      [.start 0, .init 0, .casOk 0 0, .commit 0, .take 1 0 true, .tread 1]).map (fun s => s.m.race) = some true := by decide

theorem slot_weakened_not_race_free :
    ¬ (∀ (o : Slot.Orders) (acts : List Slot.Act) (s : Slot.St), Slot.run o Slot.init acts = some s → s.m.race = false) := by
  intro hall
  obtain ⟨s, hs, hrace⟩ := Option.map_eq_some_iff.1 slot_relaxed_cas_witness
  rw [hall _ _ s hs] at hrace; cases hrace

/-- the producer's own undo path needs no order at all (it reads its own write): even with every order relaxed, a
    producer that publishes, undoes and reads its element back does not race -/
example : (Slot.run { casOk := .rlx, casFail := .rlx, swapX := .rlx, resetX := .rlx } Slot.init
    [.start 0, .init 0, .casOk 0 0, .undo 0, .chk 0]).map (fun s => (s.m.race, s.seen)) = some (false, [(0, 0, 1)]) := by decide

/-! ## the pairs (tail, head) that `Add` can read (`Model/RelAcqHeadTail.lean`)

`Add` computes `head - tail` in `uint64_t`; a pair with `head < tail` would wrap around.  Both loads may be stale, but the
consumer writes `tail_ = v` (release) only after it has read `head_ ≥ v`, and an acquire load of that `tail_` message
brings the consumer's view of `head_` along: whatever `head_` message the producer reads next is at least as new. -/

section headtail
open HT
variable {o : HT.Orders} (hok : o.ok = true) {acts : List HT.Act} {s : HT.St} (h : HT.run o HT.init acts = some s)
include hok h

/-- **every pair `Add` reads has `tail ≤ head`**, for every interleaving, every read choice, any number of producers -/
theorem headtail_pairs_ordered (t hd : Nat) (hx : (t, hd) ∈ s.pairs) : t ≤ hd :=
  (HT.reachable_inv hok h).pairsOk _ hx

/-- message `k` of `head_` has value `k`: a stale load of `head_` returns an earlier count of commits, never garbage -/
theorem headtail_head_messages_count (k : Nat) (msg : Msg) (hk : (s.m.atom headL)[k]? = some msg) : msg.val = k :=
  (HT.reachable_inv hok h).headIdx k msg hk

end headtail

theorem headtail_gen_pairs_ordered (acts : List HT.Act) (s : HT.St) (h : HT.run HT.genOrders HT.init acts = some s)
    (t hd : Nat) (hx : (t, hd) ∈ s.pairs) : t ≤ hd := headtail_pairs_ordered gen_orders_sufficient.2.2 h t hd hx

def htSrc : HT.Orders := { addLoadTail := .sc, addLoadHead := .sc, headCas := .rel, faddTail := .sc, peekLoadHead := .sc }

/-- producer 1 commits one element, the consumer consumes it (`tail_ = 1`), producer 2 reads the new `tail_ = 1` and then
    a **stale** `head_` - which the acquire load of `tail_` rules out: the action is not enabled -/
def htRun : List HT.Act := [.pLdTail 1 0, .pLdHead 1 0, .pCas 1, .cLdHead 1, .cFadd 1, .pLdTail 2 1, .pLdHead 2 0]

example : (HT.run htSrc HT.init htRun).isNone = true := by decide
example : (HT.run htSrc HT.init (htRun.take 6 ++ [.pLdHead 2 1])).map (fun s => s.pairs) = some [(1, 1), (0, 0)] := by decide
example : (HT.run HT.genOrders HT.init (htRun.take 6 ++ [.pLdHead 2 1])).isSome = true := by decide
/-- staleness that is allowed: producer 2 reads the old `tail_ = 0` and the old `head_ = 0` after all that -/
example : (HT.run htSrc HT.init (htRun.take 5 ++ [.pLdTail 2 0, .pLdHead 2 0])).map (fun s => s.pairs) = some [(0, 0), (0, 0)] := by decide

/-- `Add`'s load of `tail_` relaxed: the same schedule now reads the pair (tail, head) = (1, 0) -/
theorem headtail_relaxed_tail_load_witness :
    (HT.run { htSrc with addLoadTail := .rlx } HT.init htRun).map (fun s => s.pairs) = some [(1, 0), (0, 0)] := by decide

/-- `tail_ += n` relaxed: the same -/
theorem headtail_relaxed_fadd_witness :
    (HT.run { htSrc with faddTail := .rlx } HT.init htRun).map (fun s => s.pairs) = some [(1, 0), (0, 0)] := by decide

theorem headtail_weakened_not_ordered :
    ¬ (∀ (o : HT.Orders) (acts : List HT.Act) (s : HT.St), HT.run o HT.init acts = some s → ∀ x ∈ s.pairs, x.1 ≤ x.2) := by
  intro hall
  obtain ⟨s, hs, hpairs⟩ := Option.map_eq_some_iff.1 headtail_relaxed_tail_load_witness
  have := hall _ _ s hs (1, 0) (by rw [hpairs]; simp)
  omega

/-! ## (c, second part) what the SC theorems need of the loads of `head_` / `tail_` in `Add`

`Add` loads `tail_` and `head_` (both `seq_cst` loads in the source), but the writes they read from are the `release`
CAS of `head_` and the consumer's `tail_ += n`: in the C++ model the loads may return an **older** value of either
counter (`load_le_latest`: never a larger one, both counters only grow and are written by RMWs only, `rmw_mono`).
`Model/RingStale.lean` lets them return *any* older value - also pairs with `head < tail`, which
`headtail_pairs_ordered` shows no execution with the orders in the source produces (the two models are not coupled
formally: `RingStale` simply over-approximates).  The invariants of `Props/C11.lean` survive
(`stale_reachable_inv`), hence every **safety** theorem of C11 needs nothing of these loads.  What staleness costs is
precision of `add_fails_only_when_full` (a spurious "full": `stale_spurious_full_witness`) and extra retries (a stale
`head` sends the producer to a slot that is occupied, or makes its `head_` CAS fail: both are the model's retry
paths).  `Add` returning true and every slot write are read-modify-writes: they act on the latest value. -/

section stale
open Ring
variable {cap : Nat} (hc : 2 ≤ cap) {as : List RingStale.Act} {s : Ring.St} (h : RingStale.run (Ring.init cap) as = some s)
include hc h

/-- the SC invariants hold in every state reachable with stale loads -/
theorem stale_reachable_inv : Ring.Inv s ∧ Ring.Inv2 s := RingStale.reachable_inv cap hc as s h

theorem stale_consumed_is_log_prefix : s.out = s.log.take s.clr := (stale_reachable_inv hc h).1.outEq

theorem stale_consumed_at_most_once : s.out.Nodup := by
  rw [stale_consumed_is_log_prefix hc h]
  exact List.Sublist.nodup (List.take_sublist _ _) (stale_reachable_inv hc h).2.logNodup

/-- a stale read cannot make a failed `Add`'s element appear anywhere: not committed, not consumed, in no slot -/
theorem stale_failed_not_accepted (e : Nat) (he : e ∈ s.fails) : e ∉ s.log ∧ e ∉ s.out ∧ ∀ k, s.slots k ≠ some e := by
  obtain ⟨hI, h2⟩ := stale_reachable_inv hc h
  have hl := (h2.failsOk e he).2
  refine ⟨hl, fun ho => hl ?_, failed_not_in_slot hI h2 he⟩
  rw [stale_consumed_is_log_prefix hc h] at ho; exact List.mem_of_mem_take ho

theorem stale_size_le_capacity : s.head - s.tail ≤ cap - 1 := by
  have hcap : s.cap = cap := RingStale.cap_run _ _ as h
  rw [← hcap]; exact (stale_reachable_inv hc h).1.sizeLe

theorem stale_no_empty_slot_consumed {s' : Ring.St} (h' : Ring.step s .cClear = some s') : s.slots (s.clr % s.cap) ≠ none :=
  (inv_cClear s s' (stale_reachable_inv hc h).1 h').2

/-- **`Add` never returns true wrongly**: the commit log grows only by a `head_` CAS that found `head_` equal to the
    value the producer had read - however stale that read was when it was made - and at that moment the producer's
    element sits in slot `head % capacity` and nobody else's -/
theorem stale_commit_exact (a : RingStale.Act) (s' : Ring.St) (hs : RingStale.step s a = some s') (hlog : s'.log ≠ s.log) :
    ∃ p hh, a = .sc (.pCas p false) ∧ pcOf s p = .cas hh ∧ s.head = hh ∧ s'.log = s.log ++ [elOf s p] ∧
      s'.head = s.head + 1 ∧ s.slots (hh % s.cap) = some (elOf s p) := by
  -- every action but the `head_` CAS leaves the log alone, whichever branch it takes
  cases a with
  | sc a =>
    cases a with
    | pCas p spur =>
      simp only [RingStale.step, Ring.step] at hs
      split at hs
      · rename_i hh hpc
        split at hs
        · rename_i hcond
          cases hs
          obtain ⟨hhd, hsp⟩ := hcond
          subst hsp
          have hT : Tent s p (hh % s.cap) := ⟨hh, Or.inl hpc, rfl⟩
          exact ⟨p, hh, rfl, hpc, hhd, rfl, by simp [hhd],
            ((stale_reachable_inv hc h).1.tentSlot p _ hT).1⟩
        · cases hs; exact absurd rfl hlog
      · cases hs
    | _ =>
      exfalso; simp only [RingStale.step, Ring.step] at hs
      (repeat' split at hs) <;> first | (cases hs; exact hlog rfl) | cases hs
  | _ =>
    exfalso; simp only [RingStale.step] at hs
    (repeat' split at hs) <;> first | (cases hs; exact hlog rfl) | cases hs

/-- **no slot is corrupted**: a producer between its slot CAS and its `head_` CAS / undo `Swap` finds its own element in
    the slot (so the undo `Swap` takes back exactly that), and the slot is not the home of a committed element -/
theorem stale_undo_takes_own_element (p hh : Nat) (hpc : pcOf s p = .cas hh ∨ pcOf s p = .undo hh) :
    s.slots (hh % s.cap) = some (elOf s p) ∧ ¬ Committed s (hh % s.cap) :=
  (stale_reachable_inv hc h).1.tentSlot p _ ⟨hh, hpc, rfl⟩

/-- **failure justification, as far as it survives** (`…_partial` of `add_fails_only_when_full`): when the full test
    succeeds on a pair of values read with `t ≤ h` (every pair is: `headtail_pairs_ordered`), the number of `Add` calls begun before this return, itself excluded,
    minus the consumption the producer has *seen* (`c0` = the smaller of the consumption when the call began and the
    `tail_` value it read) is at least `max_size`.  The SC statement has the consumption when the call began instead; it
    follows when the tail value read is not older than that (`c0Of` is then unchanged), which sequential consistency
    gives and the C++ model does not (`stale_spurious_full_witness`). -/
theorem stale_add_fails_only_when_seen_full_partial (p t hh : Nat) (hpc : pcOf s p = .ldHead t) (hle : hh ≤ s.head)
    (hth : t ≤ hh) (hfull : hh - t ≥ s.cap - 1) : (s.nextId - 1) - c0Of s p ≥ cap - 1 := by
  obtain ⟨hI, h2⟩ := stale_reachable_inv hc h
  have hcap : s.cap = cap := RingStale.cap_run _ _ as h
  -- `hh` is not ahead of `head_`, so the full test succeeds on the current `head_` as well: the SC argument applies
  rw [← hcap]
  exact full_justified hI h2 hpc (Nat.le_trans hfull (Nat.sub_le_sub_right hle t))

end stale

/-- the one thing staleness causes: **a spurious "full"**.  `max_size = 1`; producer 0 adds element 0, the consumer
    takes and clears it - the buffer is empty - then producer 0's next `Add` loads a stale `tail_ = 0` (it has not
    synchronised with the consumer), the current `head_ = 1`, and returns false. -/
theorem stale_spurious_full_witness :
    (RingStale.run (Ring.init 2)
      [.sc (.pStart 0), .sc (.pLdTail 0), .sc (.pLdHead 0), .sc (.pSwap 0 false), .sc (.pCas 0 false),
       .sc (.cTake 1), .sc .cClear, .sc (.pStart 0), .ldTailStale 0 0, .sc (.pLdHead 0)]).map
      (fun s => (s.fails, s.log, s.out, s.head, s.tail, s.clr)) = some ([1], [0], [0], 1, 1, 1) := by decide

/-- … which the SC model excludes: there the same `Add` (same schedule, latest values) goes on to the slot CAS -/
example : (Ring.run (Ring.init 2)
      [.pStart 0, .pLdTail 0, .pLdHead 0, .pSwap 0 false, .pCas 0 false, .cTake 1, .cClear, .pStart 0, .pLdTail 0, .pLdHead 0]).map
      (fun s => (s.fails, Ring.pcOf s 0)) = some ([], .swap 1 1) := by decide

/-- a stale `head_` only costs a retry: the producer goes to a slot of an older index, its `head_` CAS fails, it undoes
    and starts over; nothing is committed, nothing lost -/
example : (RingStale.run (Ring.init 3)
      [.sc (.pStart 0), .sc (.pLdTail 0), .sc (.pLdHead 0), .sc (.pSwap 0 false), .sc (.pCas 0 false),
       .sc (.cTake 1), .sc .cClear,
       .sc (.pStart 1), .ldTailStale 1 0, .ldHeadStale 1 0, .sc (.pSwap 1 false), .sc (.pCas 1 false), .sc (.pUndo 1)]).map
      (fun s => (s.log, s.fails, Ring.pcOf s 1, s.slots 0)) = some ([0], [], .ldTail, none) := by decide

end Otel.C11Mem
