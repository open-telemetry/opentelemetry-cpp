import OtelVerif.Model.Span
import OtelVerif.Lemmas.Attr
/-! # C04 — an exported span carries exactly what the application recorded before End

Property theorems about `Model/Span.lean` (mirrors `span.cc`, `span_data.h`, `multi_recordable.h`,
`multi_span_processor.h`, `simple_processor.h`, `attribute_utils.h`).  A *program* is a start configuration `Cfg`
(processors of mixed kinds, resource, scope, `StartSpan` arguments) and an arbitrary list of span operations — including
operations after `End`, several `End`s and `ForceFlush`es anywhere; `run` appends the destructor's `End()` and the final
flush.  Everything below is proved for every configuration and every operation list, by induction over the lists.

The specification vocabulary (`live`, `firstEnd`, `nameWrite`, `attrWrite`, `lastWrite`, …) is written from the property
text with library list functions (`takeWhile`, `filterMap`, `getLast?`, `head?`), independently of the model's `step`.

Partial aspects (not carried by a theorem): "owned copies" is a lifetime fact — the theorems give value equality at export
time, ownership is shown by the ASan-clean free-after-call discipline of the harness; "from several threads on one span":
the theorems are over sequential histories — `mu_` makes every mutator and `End` atomic, so every concurrent execution is
one of them. -/
namespace Otel.C04
open Otel Otel.SAttr Otel.Span

def isEnd : Op → Bool
  | .end_ _ => true
  | _ => false

/-- SPEC: the operations that can take effect — everything before the first `End` of the program -/
def live (ops : List Op) : List Op := ops.takeWhile fun op => !isEnd op

def endOption : Op → Option Int
  | .end_ e => some e
  | _ => none

/-- SPEC: the `end_steady_time` option of the first `End` (0 = not given; also when only the destructor ends the span) -/
def firstEnd (ops : List Op) : Int := ((ops.filterMap endOption).head?).getD 0

def nameWrite : Op → Option Bytes
  | .updateName n => some n
  | _ => none

def attrWrite : Op → Option (Bytes × Value)
  | .setAttribute k v => some (k, v)
  | _ => none

def statusWrite : Op → Option (Nat × Bytes)
  | .setStatus c d => some (c, d)
  | _ => none

/-- SPEC: the event an `AddEvent` call records: its name, its timestamp argument (`none` = the clock), its own attributes -/
def eventOf : Op → Option Event
  | .addEvent n ts kvs => some ⟨n, ts, Map.ofIterable (kvs.getD [])⟩
  | _ => none

/-- SPEC: the link a `StartSpan` link argument records -/
def linkOf (l : Bytes × Bytes × UInt8 × KVs) : Link := ⟨l.1, l.2.1, l.2.2.1, Map.ofIterable l.2.2.2⟩

/-- SPEC: the link an `AddLink` call (ABI v2) records -/
def linkWrite : Op → Option Link
  | .addLink tid sid fl kvs => some ⟨tid, sid, fl, Map.ofIterable kvs⟩
  | _ => none

/-- the `Recordable` call a span operation turns into while the span is recording -/
def toRec : Op → Option RecOp
  | .setAttribute k v => some (.setAttribute k v)
  | .addLink tid sid fl kvs => some (.addLink tid sid fl kvs)
  | .addEvent n ts kvs => some (.addEvent n ts (kvs.getD []))
  | .setStatus c d => some (.setStatus c d)
  | .updateName n => some (.setName n)
  | .end_ _ => none
  | .flush => none

/-- constructor calls, then the live operations, then the duration set by the first `End` — applied to a default `SpanData` -/
def exported (c : Cfg) (ops : List Op) : SpanData :=
  (ctorOps c ++ (live ops).filterMap toRec
    ++ [RecOp.setDuration (durationOf (nowOr (firstEnd ops)) (nowOr c.startSteady))]).foldl SpanData.apply {}

/-- the final state of a processor that was notified once and whose exporter received exactly one batch `[sd]` -/
def doneProc (sd : SpanData) (k : ProcKind) : Proc := { kind := k, onStart := 1, onEnd := 1, queue := [], exports := [[sd]] }

theorem live_nil : live [] = [] := rfl
theorem live_cons_end (e : Int) (t : List Op) : live (.end_ e :: t) = [] := rfl
theorem live_cons_of_not_end {op : Op} (h : isEnd op = false) (t : List Op) : live (op :: t) = op :: live t := by
  cases op with
  | end_ e => cases h
  | _ => rfl

theorem firstEnd_nil : firstEnd [] = 0 := rfl
theorem firstEnd_cons_end (e : Int) (t : List Op) : firstEnd (.end_ e :: t) = e := rfl
theorem firstEnd_cons_of_not_end {op : Op} (h : isEnd op = false) (t : List Op) : firstEnd (op :: t) = firstEnd t := by
  cases op with
  | end_ e => cases h
  | _ => rfl

theorem live_append_end (pre : List Op) (e : Int) (post : List Op) : live (pre ++ .end_ e :: post) = live pre := by
  induction pre with
  | nil => rfl
  | cons op t ih =>
    cases op with
    | end_ e' => rfl
    | _ => exact congrArg (List.cons _) ih

theorem firstEnd_append_end (pre : List Op) (e : Int) (post : List Op) :
    firstEnd (pre ++ .end_ e :: post) = firstEnd (pre ++ [.end_ e]) := by
  induction pre with
  | nil => rfl
  | cons op t ih =>
    cases op with
    | end_ e' => rfl
    | _ => exact ih

theorem split_program (ops : List Op) :
    ∃ t, ops ++ [.end_ 0, .flush] = live ops ++ .end_ (firstEnd ops) :: (t ++ [.flush]) := by
  induction ops with
  | nil => exact ⟨[], rfl⟩
  | cons op r ih =>
    cases op with
    | end_ e => exact ⟨r ++ [.end_ 0], by simp [live_cons_end, firstEnd_cons_end]⟩
    | _ => obtain ⟨t, ht⟩ := ih; exact ⟨t, congrArg (List.cons _) ht⟩

theorem multi_foldl_replicate (rops : List RecOp) (n : Nat) (sd : SpanData) :
    rops.foldl Multi.apply (List.replicate n sd) = List.replicate n (rops.foldl SpanData.apply sd) := by
  induction rops generalizing sd with
  | nil => rfl
  | cons op t ih => simp only [List.foldl_cons, Multi.apply, List.map_replicate]; exact ih _

theorem deliver_replicate (ks : List ProcKind) (f : ProcKind → Proc) (sd : SpanData) :
    deliver (ks.map f) (List.replicate ks.length sd) = ks.map fun k => (f k).end_ sd := by
  induction ks with
  | nil => rfl
  | cons k t ih => simp [deliver, List.replicate_succ, ih]

theorem flush_flush (p : Proc) : p.flush.flush = p.flush := by
  obtain ⟨kind, a, b, queue, x⟩ := p
  cases kind <;> cases queue <;> simp [Proc.flush]

theorem flush_of_empty_queue {p : Proc} (h : p.queue = []) : p.flush = p := by
  obtain ⟨kind, a, b, queue, x⟩ := p
  cases kind <;> simp_all [Proc.flush]

theorem end_flush (k : ProcKind) (sd : SpanData) :
    (Proc.end_ { kind := k, onStart := 1 } sd).flush = doneProc sd k := by
  cases k <;> simp [Proc.end_, Proc.flush, doneProc]

/-- while the span records, a program without `End` only changes the recordable: every operation's `Recordable` call is
    applied to every child; a `ForceFlush` finds nothing queued -/
theorem exec_live (ops : List Op) : ∀ (s : State) (rs : Multi), s.recordable = some rs → (∀ p ∈ s.procs, p.queue = []) →
    exec s (live ops) = { s with recordable := some (((live ops).filterMap toRec).foldl Multi.apply rs) } := by
  induction ops with
  | nil => intro s rs h _; simp [live_nil, exec, ← h]
  | cons op t ih =>
    intro s rs h hq
    cases op with
    | end_ e => simp [live_cons_end, exec, ← h]
    | flush =>
      have hid : ∀ p ∈ s.procs, Proc.flush p = id p := fun p hp => flush_of_empty_queue (hq p hp)
      have hf : step s .flush = s := by simp only [step, List.map_congr_left hid, List.map_id]
      show exec (step s .flush) (live t) = _
      rw [hf]
      exact ih s rs h hq
    | _ =>
      -- a mutator: `mutate` with the operation's `Recordable` call
      show exec (step s _) (live t) = _
      simp only [step, mutate, h]
      exact ih _ _ rfl hq

theorem step_ended {s : State} (h1 : s.hasEnded = true) (h2 : s.recordable = none) {op : Op} (hop : op ≠ .flush) :
    step s op = s := by
  cases op with
  | end_ e => exact if_pos h1                 -- `End` tests `has_ended_` first
  | flush => exact absurd rfl hop
  | _ => simp only [step, mutate, h2]          -- a mutator returns at `recordable_ == nullptr`

theorem exec_append (s : State) (a b : List Op) : exec s (a ++ b) = exec (exec s a) b := List.foldl_append ..

theorem exec_ended_flush (t : List Op) : ∀ (s : State), s.hasEnded = true → s.recordable = none →
    exec s (t ++ [.flush]) = { s with procs := s.procs.map Proc.flush } := by
  induction t with
  | nil => intro s _ _; rfl
  | cons op r ih =>
    intro s h1 h2
    show exec (step s op) (r ++ [.flush]) = _
    by_cases hop : op = .flush
    · subst hop
      rw [ih (step s .flush) h1 h2]
      simp [step, List.map_map, Function.comp_def, flush_flush]
    · rw [step_ended h1 h2 hop]; exact ih s h1 h2

/-- Closed form of a whole case: for every configuration and every operation list, after the program, the release of
    the span and the final flush: the span is ended, and *every* processor — simple or batch — was notified exactly once
    (`OnStart` = `OnEnd` = 1), has nothing queued, and its exporter's log is exactly one `Export` call with exactly one
    span, the record `exported c ops` (the same value for all processors). -/
theorem run_closed_form (c : Cfg) (ops : List Op) :
    run c ops = { recordable := none, hasEnded := true, startSteady := nowOr c.startSteady,
                  procs := c.procs.map (doneProc (exported c ops)) } := by
  obtain ⟨t, ht⟩ := split_program ops
  have hinit : (init c).recordable = some (List.replicate c.procs.length ((ctorOps c).foldl SpanData.apply {})) := by
    simp [init, List.map_const', multi_foldl_replicate]
  have h1 := exec_live ops (init c) _ hinit (List.forall_mem_map.mpr fun _ _ => rfl)
  rw [run, ht, exec_append, h1, multi_foldl_replicate]
  -- the first `End`: every child gets the duration and goes to its processor; the rest is flushed
  show exec (step _ (.end_ (firstEnd ops))) (t ++ [.flush]) = _
  rw [exec_ended_flush t _ rfl rfl]
  simp only [step, init, Multi.apply, List.map_replicate, Bool.false_eq_true, if_false, deliver_replicate, List.map_map]
  simp [exported, List.foldl_append, Function.comp_def, end_flush]
/-- what a span operation does to a recording `SpanData`: its `Recordable` call, if it has one -/
def applyOp (sd : SpanData) (op : Op) : SpanData :=
  match toRec op with
  | some r => sd.apply r
  | none => sd

theorem foldl_toRec (l : List Op) (sd : SpanData) : (l.filterMap toRec).foldl SpanData.apply sd = l.foldl applyOp sd := by
  induction l generalizing sd with
  | nil => rfl
  | cons op t ih =>
    rw [List.filterMap_cons, List.foldl_cons, applyOp]
    cases toRec op with
    | none => exact ih sd
    | some r => exact ih _

theorem foldl_setAttribute (kvs : KVs) (sd : SpanData) :
    (kvs.map fun kv => RecOp.setAttribute kv.1 kv.2).foldl SpanData.apply sd
      = { sd with attrs := kvs.foldl (fun m kv => m.setAttribute kv.1 kv.2) sd.attrs } := by
  induction kvs generalizing sd with
  | nil => rfl
  | cons kv t ih => exact ih _

theorem foldl_addLink (ls : List (Bytes × Bytes × UInt8 × KVs)) (sd : SpanData) :
    (ls.map fun l => RecOp.addLink l.1 l.2.1 l.2.2.1 l.2.2.2).foldl SpanData.apply sd
      = { sd with links := sd.links ++ ls.map linkOf } := by
  induction ls generalizing sd with
  | nil => simp
  | cons l t ih => rw [List.map_cons, List.foldl_cons, ih]; simp [SpanData.apply, linkOf]

/-- the record the constructor's calls leave -/
def started (c : Cfg) : SpanData :=
  { name := c.name, scope := some c.scope, attrs := Map.ofIterable c.attrs, links := c.links.map linkOf,
    kind := c.kind, startSys := nowOr c.startSys, resource := some c.resource }

theorem ctor_eq (c : Cfg) : (ctorOps c).foldl SpanData.apply {} = started c := by
  simp only [ctorOps, List.foldl_append, foldl_setAttribute, foldl_addLink]
  rfl

theorem exported_eq (c : Cfg) (ops : List Op) :
    exported c ops = ((live ops).foldl applyOp (started c)).apply
      (.setDuration (durationOf (nowOr (firstEnd ops)) (nowOr c.startSteady))) := by
  rw [exported, List.foldl_append, List.foldl_append, foldl_toRec, ctor_eq]
  rfl

/-- The exported name is the argument of the last `UpdateName` before the first `End`, and the
    `StartSpan` name when there is none. -/
theorem name_is_last_update (c : Cfg) (ops : List Op) :
    (exported c ops).name = (((live ops).filterMap nameWrite).getLast?).getD c.name := by
  rw [exported_eq]
  exact foldl_last applyOp (·.name) nameWrite (by intro sd op; cases op <;> rfl) (live ops) (started c)

/-- The status is the last `SetStatus` before the first `End` (code and description together), `Unset`/"" when there is none -/
theorem status_is_last_set (c : Cfg) (ops : List Op) :
    ((exported c ops).statusCode, (exported c ops).statusDesc)
      = (((live ops).filterMap statusWrite).getLast?).getD (0, []) := by
  rw [exported_eq]
  exact foldl_last applyOp (fun sd => (sd.statusCode, sd.statusDesc)) statusWrite (by intro sd op; cases op <;> rfl)
    (live ops) (started c)

theorem foldl_frame {σ α β : Type} (step : σ → α → σ) (proj : σ → β) (h : ∀ s a, proj (step s a) = proj s)
    (l : List α) (s : σ) : proj (l.foldl step s) = proj s := by
  induction l generalizing s with
  | nil => rfl
  | cons a t ih => rw [List.foldl_cons, ih, h]

/-- **kind, start time, resource, instrumentation scope** are the ones given at `StartSpan` / by the provider and tracer;
    nothing a program does changes them.  (`nowOr`: a zero start time means "not given" and is replaced by the clock.) -/
theorem kind_start_resource_scope (c : Cfg) (ops : List Op) :
    (exported c ops).kind = c.kind ∧ (exported c ops).startSys = nowOr c.startSys ∧
    (exported c ops).resource = some c.resource ∧ (exported c ops).scope = some c.scope := by
  have := foldl_frame applyOp (fun sd => (sd.kind, sd.startSys, sd.resource, sd.scope))
    (by intro sd op; cases op <;> rfl) (live ops) (started c)
  rw [exported_eq]
  exact ⟨congrArg (·.1) this, congrArg (·.2.1) this, congrArg (·.2.2.1) this, congrArg (·.2.2.2) this⟩

theorem duration_exported (c : Cfg) (ops : List Op) :
    (exported c ops).duration = durationOf (nowOr (firstEnd ops)) (nowOr c.startSteady) := by
  rw [exported_eq]; rfl

/-- When `StartSpan` was given a steady start time and the first `End` a steady end
    time, the exported duration is their difference — whatever later `End`s say. -/
theorem duration_eq_end_minus_start (c : Cfg) (ops : List Op) (hs : c.startSteady ≠ 0) (he : firstEnd ops ≠ 0) :
    (exported c ops).duration = some (firstEnd ops - c.startSteady) := by
  rw [duration_exported]; simp [nowOr, hs, he, durationOf]

/-- … and it is a clock reading (not determined by the program) as soon as one of the two is not given -/
theorem duration_clock (c : Cfg) (ops : List Op) (h : c.startSteady = 0 ∨ firstEnd ops = 0) :
    (exported c ops).duration = none := by
  rw [duration_exported]
  rcases h with h | h
  · simp only [nowOr, h, if_true, durationOf]; split <;> simp_all
  · simp only [nowOr, h, if_true, durationOf]

theorem attrs_foldl (l : List Op) (sd : SpanData) :
    (l.foldl applyOp sd).attrs = (l.filterMap attrWrite).foldl (fun m kv => m.setAttribute kv.1 kv.2) sd.attrs := by
  induction l generalizing sd with
  | nil => rfl
  | cons op t ih => rw [List.foldl_cons, ih]; cases op <;> rfl

theorem attrs_exported (c : Cfg) (ops : List Op) :
    (exported c ops).attrs = Map.ofIterable (c.attrs ++ (live ops).filterMap attrWrite) := by
  rw [exported_eq, Map.ofIterable, List.foldl_append]
  exact attrs_foldl (live ops) (started c)

/-- For every key, the exported attribute is the owned copy (`convert`) of the value of the
    last write to that key among the `StartSpan` attributes followed by the `SetAttribute` calls before the first `End` —
    whatever the alternatives of the earlier and the later value are; a key never written is absent; keys are distinct. -/
theorem attr_last_write_wins (c : Cfg) (ops : List Op) (k : Bytes) :
    Map.lookup k (exported c ops).attrs = (lastWrite k (c.attrs ++ (live ops).filterMap attrWrite)).map convert := by
  rw [attrs_exported, Map.lookup_ofIterable]

theorem attr_keys_distinct (c : Cfg) (ops : List Op) : (exported c ops).attrs.keys.Nodup := by
  rw [attrs_exported]; exact Map.nodup_ofIterable _

theorem foldl_appended {σ α β : Type} (step : σ → α → σ) (proj : σ → List β) (sel : α → Option β)
    (h : ∀ s a, proj (step s a) = proj s ++ (sel a).toList) (l : List α) (s : σ) :
    proj (l.foldl step s) = proj s ++ l.filterMap sel := by
  induction l generalizing s with
  | nil => simp
  | cons a t ih =>
    rw [List.foldl_cons, ih, h, List.filterMap_cons]
    cases sel a <;> simp

/-- The exported events are exactly the `AddEvent` calls before the first `End`, in call
    order, each with its name, timestamp argument and own attribute map; the links are exactly the `StartSpan` links in
    argument order followed by the `AddLink` calls (ABI v2) before the first `End` in call order, each with its own
    attribute map. -/
theorem events_links_in_order (c : Cfg) (ops : List Op) :
    (exported c ops).events = (live ops).filterMap eventOf ∧
    (exported c ops).links = c.links.map linkOf ++ (live ops).filterMap linkWrite := by
  rw [exported_eq]
  exact ⟨(foldl_appended applyOp (·.events) eventOf (by intro sd op; cases op <;> simp [applyOp, toRec, SpanData.apply, eventOf])
      (live ops) (started c)).trans (List.nil_append _),
    foldl_appended applyOp (·.links) linkWrite (by intro sd op; cases op <;> simp [applyOp, toRec, SpanData.apply, linkWrite])
      (live ops) (started c)⟩

/-- the own attributes of an event or link: last write wins per key inside the iterable that was passed -/
theorem own_attrs_last_write_wins (kvs : KVs) (k : Bytes) :
    Map.lookup k (Map.ofIterable kvs) = (lastWrite k kvs).map convert ∧ (Map.ofIterable kvs).keys.Nodup :=
  ⟨Map.lookup_ofIterable k kvs, Map.nodup_ofIterable kvs⟩

/-- **scope attributes** (ABI v2 `GetTracer(name, version, schema_url, attributes)`): when the tracer was requested with the
    attribute iterable `kvs`, the exported span's instrumentation scope carries, per key, the last pair of `kvs` (as an owned
    value), whatever the span program does. -/
theorem scope_attrs_last_write_wins (c : Cfg) (ops : List Op) (kvs : KVs) (k : Bytes)
    (h : c.scope.attrs = some (Map.ofIterable kvs)) :
    ∃ sc, (exported c ops).scope = some sc ∧ ∃ m, sc.attrs = some m ∧
      Map.lookup k m = (lastWrite k kvs).map convert ∧ m.keys.Nodup :=
  ⟨c.scope, (kind_start_resource_scope c ops).2.2.2, Map.ofIterable kvs, h,
    Map.lookup_ofIterable k kvs, Map.nodup_ofIterable kvs⟩

/-- the hypothesis of `scope_attrs_last_write_wins` is satisfiable -/
example : ∃ c : Cfg, c.scope.attrs = some (Map.ofIterable [([107], Value.i32 1), ([107], Value.i32 2)]) :=
  ⟨{ procs := [.simple], resource := [], scope := ⟨[], [], [], some (Map.ofIterable [([107], Value.i32 1), ([107], Value.i32 2)])⟩,
     name := [], kind := 0, startSys := 0, startSteady := 0, attrs := [], links := [] }, rfl⟩

/-- Every configured processor's exporter received the same record, as one `Export` call with
    one span (so any two processors' copies are equal). -/
theorem fanout_identical (c : Cfg) (ops : List Op) :
    ∀ p ∈ (run c ops).procs, p.exports = [[exported c ops]] := by
  rw [run_closed_form]
  exact List.forall_mem_map.mpr fun k _ => rfl

/-- The processors after the run are the configured ones (same number, same kinds,
    same order), each with exactly one `OnStart`, exactly one `OnEnd`, exactly one `Export` call, and nothing left queued. -/
theorem each_processor_notified_once (c : Cfg) (ops : List Op) :
    (run c ops).procs.map (·.kind) = c.procs ∧
    ∀ p ∈ (run c ops).procs, p.onStart = 1 ∧ p.onEnd = 1 ∧ p.exports.length = 1 ∧ p.queue = [] := by
  rw [run_closed_form]
  constructor
  · simp [List.map_map, Function.comp_def, doneProc]
  · exact List.forall_mem_map.mpr fun k _ => ⟨rfl, rfl, rfl, rfl⟩

theorem exec_invariant (P : State → Prop) (hstep : ∀ s op, P s → P (step s op)) :
    ∀ (l : List Op) (s : State), P s → P (exec s l) := by
  intro l
  induction l with
  | nil => intro s h; exact h
  | cons op t ih => intro s h; exact ih _ (hstep s op h)

theorem mutate_hasEnded (s : State) (r : RecOp) : (mutate s r).hasEnded = s.hasEnded := by
  unfold mutate; split <;> rfl

theorem mutate_recordable_none (s : State) (r : RecOp) : (mutate s r).recordable = none ↔ s.recordable = none := by
  unfold mutate; split <;> simp [*]

/-- the two latches agree in every reachable state: `recordable_ == nullptr` exactly when `has_ended_` -/
theorem ended_iff_no_recordable (c : Cfg) (ops : List Op) :
    (exec (init c) ops).recordable = none ↔ (exec (init c) ops).hasEnded = true := by
  refine exec_invariant (fun s => s.recordable = none ↔ s.hasEnded = true) (fun s op h => ?_) ops (init c) (by simp [init])
  cases op with
  | end_ e =>
    simp only [step]
    by_cases he : s.hasEnded = true
    · simp [he, h]
    · cases hr : s.recordable <;> simp [he]
  | flush => exact h
  | _ => simp only [step, mutate_hasEnded, mutate_recordable_none]; exact h

/-- State level: after any program that contains an `End`, a further `End` and every mutator
    (`SetAttribute`, `AddEvent`, `SetStatus`, `UpdateName`) leave the *whole* system state unchanged: the span, every
    processor's counters and queue, every exporter's log. -/
theorem end_once_step (c : Cfg) (pre : List Op) (e : Int) (post : List Op) (op : Op) (hop : op ≠ .flush) :
    step (exec (init c) (pre ++ .end_ e :: post)) op = exec (init c) (pre ++ .end_ e :: post) := by
  have hended : (exec (init c) (pre ++ .end_ e :: post)).hasEnded = true := by
    rw [exec_append]
    show (exec (step (exec (init c) pre) (.end_ e)) post).hasEnded = true
    -- `End` sets the latch, and nothing resets it
    refine exec_invariant (·.hasEnded = true) (fun s op h => ?_) post _ ?_
    · cases op with
      | end_ e' => simp [step, h]
      | flush => exact h
      | _ => simp only [step, mutate_hasEnded]; exact h
    · simp only [step]
      split
      · assumption
      · split <;> rfl
  exact step_ended hended ((ended_iff_no_recordable c _).mpr hended) hop

/-- Program level: whatever follows the first `End` — further `End`s with other options, mutators,
    flushes — the final system state (every exporter's log included) is the one of the program cut after that `End`:
    nothing is changed and nothing more is exported. -/
theorem end_once (c : Cfg) (pre : List Op) (e : Int) (post : List Op) :
    run c (pre ++ .end_ e :: post) = run c (pre ++ [.end_ e]) := by
  rw [run_closed_form, run_closed_form]
  have : exported c (pre ++ .end_ e :: post) = exported c (pre ++ [.end_ e]) := by
    unfold exported
    rw [live_append_end, live_append_end pre e [], firstEnd_append_end]
  rw [this]

/-- the exporter logs only ever grow by the one record: in the final state the total number of exported spans per
    processor is 1, for every program (no duplicate through a second `End`, none lost) -/
theorem exported_span_count (c : Cfg) (ops : List Op) :
    ∀ p ∈ (run c ops).procs, (p.exports.flatten).length = 1 := by
  intro p hp
  rw [fanout_identical c ops p hp]
  rfl

/-- one value of each alternative of `common::AttributeValue`, in the order of the constructors -/
def samples : List Value :=
  [.bool false, .i32 0, .i64 0, .u32 0, .f64 0, .cstr [], .str [], .bools [], .i32s [], .i64s [], .u32s [], .f64s [],
   .strs [], .u64 0, .u64s [], .bytes []]

/-- the source's spelling of a value's alternative, and of its owned copy's, depend on the constructor only -/
theorem sample_of (v : Value) : ∃ s ∈ samples, v.alt = s.alt ∧ (convert v).alt = (convert s).alt := by
  have : ∃ s, samples[v.ctorIdx]? = some s ∧ v.alt = s.alt ∧ (convert v).alt = (convert s).alt := by
    cases v <;> exact ⟨_, rfl, rfl, rfl⟩
  obtain ⟨s, hs, h⟩ := this
  exact ⟨s, List.mem_of_getElem? hs, h⟩

/-- the model against the three tables found in the source, at the samples; evaluated together, the spellings are
    compared once -/
theorem tables_at_samples :
    (∀ s ∈ samples, Gen.attrConverter.lookup s.alt = some (convert s).alt ∧
      Gen.ownedValueAlts.idxOf (convert s).alt < Gen.ownedValueAlts.length) ∧
    ∀ a ∈ Gen.attrValueAlts, a ∈ samples.map Value.alt := by
  decide +kernel

/-- the model's `convert` follows the overload table of `AttributeConverter` found in the source: for every alternative
    the source has an overload, and it returns the owned type the model returns -/
theorem convert_matches_source (v : Value) : Gen.attrConverter.lookup v.alt = some (convert v).alt := by
  obtain ⟨s, hs, h1, h2⟩ := sample_of v
  rw [h1, h2]; exact (tables_at_samples.1 s hs).1

/-- every alternative of `common::AttributeValue` in the source is a constructor of the model -/
theorem every_alternative_modelled : ∀ a ∈ Gen.attrValueAlts, a ∈
    ([.bool false, .i32 0, .i64 0, .u32 0, .f64 0, .cstr [], .str [], .bools [], .i32s [], .i64s [], .u32s [], .f64s [],
      .strs [], .u64 0, .u64s [], .bytes []] : List Value).map Value.alt :=
  tables_at_samples.2

/-- every owned alternative the model produces exists in the source's `OwnedAttributeValue` -/
theorem owned_index_valid (v : Value) : (convert v).index < Gen.ownedValueAlts.length := by
  obtain ⟨s, hs, _, h2⟩ := sample_of v
  rw [Owned.index, h2]; exact (tables_at_samples.1 s hs).2

/-- strings keep every byte (embedded NULs included, empty strings stay empty strings); arrays keep every element in
    order; only the `const char *` alternative stops at the first NUL (it is a C string) -/
theorem convert_keeps_content :
    (∀ s, convert (.str s) = .str s) ∧ (∀ l, convert (.strs l) = .strs l) ∧ (∀ l, convert (.bytes l) = .bytes l) ∧
    (∀ l, convert (.bools l) = .bools l) ∧ (∀ l, convert (.i32s l) = .i32s l) ∧ (∀ l, convert (.i64s l) = .i64s l) ∧
    (∀ l, convert (.u32s l) = .u32s l) ∧ (∀ l, convert (.u64s l) = .u64s l) ∧ (∀ l, convert (.f64s l) = .f64s l) ∧
    (∀ buf, convert (.cstr buf) = .str (buf.takeWhile (· ≠ 0))) :=
  ⟨fun _ => rfl, fun _ => rfl, fun _ => rfl, fun _ => rfl, fun _ => rfl, fun _ => rfl, fun _ => rfl, fun _ => rfl,
   fun _ => rfl, fun _ => rfl⟩

theorem spanKind_statusCode_counts : Gen.spanKindNames.length = 5 ∧ Gen.statusCodeNames.length = 3 := by decide

def exCfg : Cfg :=
  { procs := [.simple, .batch, .simple], resource := [1], scope := ⟨[2], [], [], none⟩, name := [110], kind := 2,
    startSys := 1000, startSteady := 5000, attrs := [([97], .i32 5), ([98], .str [0, 1]), ([97], .cstr [65, 0, 66])],
    links := [([1], [2], 1, [([107], .bools [true])])] }

def exOps : List Op :=
  [.setAttribute [97] (.i64 (-7)), .addEvent [101] (some 77) (some [([107], .strs [[], [97]])]), .updateName [111],
   .addLink [3] [4] 0 [([107], .i32 1), ([107], .i32 2)],
   .flush, .end_ 7000, .setAttribute [122] (.bool true), .updateName [112], .end_ 9000]

example : exCfg.startSteady ≠ 0 ∧ firstEnd exOps ≠ 0 := by decide
example : (exported exCfg exOps).duration = some 2000 := by decide
example : (exported exCfg exOps).name = [111] := by decide
example : Map.lookup [97] (exported exCfg exOps).attrs = some (.i64 (-7)) := by decide
example : Map.lookup [122] (exported exCfg exOps).attrs = none := by decide
example : (run exCfg exOps).procs.map (·.exports.length) = [1, 1, 1] := by decide
example : live exOps = exOps.take 5 := by decide
example : (exported exCfg exOps).links.map (·.traceId) = [[1], [3]] := by decide
/-- without the final flush a batch processor has exported nothing yet: the flush in `run` is what the statement needs -/
example : ((exec (init exCfg) exOps).procs.map (·.exports.length)) = [1, 0, 1] := by decide

end Otel.C04
