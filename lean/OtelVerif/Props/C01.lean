import OtelVerif.Lemmas.Batch.Main
import OtelVerif.Props.C11
/-! # C01 — Batch processors hand every accepted span/log to the exporter exactly once

Two layers.  The queue (`CircularBuffer`) is C11: every element whose `Add` returned true is consumed exactly once, in
commit order and in each producer's own order, an `Add` fails only when the queue is full, and a failed element stays
with the caller (`Otel.C11.consumed_is_log_prefix`, `consumed_at_most_once`, `drained_all`, `per_producer_fifo`,
`add_fails_only_when_full`, `failed_not_in_buffer`).  On top of it the protocol model `Model/BatchAbs.lean` (tied to the
real processors by the refinement check) says what the worker does with what it consumes: it hands exactly the consumed
records to `Export`, everything committed before shutdown is exported, producers never wait. -/
namespace Otel.C01
open Otel Otel.Batch

section batch
variable {maxQ maxB : Nat} (hb : 1 ≤ maxB) {as : List Act} {s : St} (h : run (init maxQ maxB) as = some s)
include hb h

/-- **nothing is duplicated or lost between `Consume` and `Export`**: the number of records handed to the exporter never
    exceeds the number taken from the queue, and equals it whenever the worker is not between `tail_ += n` and the
    return of `Export` (with C11: the batches, concatenated, are exactly the consumed prefix of the commit log — each
    accepted record at most once, in commit order, in each producer's order) -/
theorem exports_are_consumed : s.exported ≤ s.tail ∧ s.tail ≤ s.head ∧
    ((∀ r n T R num, s.wpc ≠ .exportB r n T R num ∧ s.wpc ≠ .exportE r n T R num) → s.exported = s.tail) :=
  have hI := reachable_inv maxQ maxB hb as s h
  ⟨hI.expLe, hI.tailLe, hI.exported_eq_tail⟩

/-- the batch in hand while the worker is inside (or about to enter) `Export` is exactly the difference -/
theorem batch_in_hand (r : Ret) (n T R num : Nat) (hw : s.wpc = .exportB r n T R num ∨ s.wpc = .exportE r n T R num) :
    s.exported + num = s.tail := by
  have hI := (reachable_inv maxQ maxB hb as s h).w
  unfold WInv at hI
  rcases hw with hw | hw <;> (rw [hw] at hI; exact hI.1)

/-- **everything accepted before shutdown is delivered**: once the worker has finished (which every returning
    `Shutdown` waits for), every record committed before `is_shutdown` was set has been exported, and nothing consumed is
    left unexported.  (A record whose `OnEnd` races `Shutdown` — it passed the `is_shutdown` test and was committed after
    the worker's last look at the queue — is not covered: it was not "ended before shutdown".) -/
theorem accepted_delivered_at_shutdown (hd : s.wpc = .done) : s.sdHead ≤ s.exported ∧ s.exported = s.tail :=
  (reachable_inv maxQ maxB hb as s h).at_done hd

omit hb h

/-- **dropped only because the queue was at capacity**: the model lets an `Add` fail only under C11's justification —
    the `Add`s begun before it returns (itself excluded) minus what had been exported when it began fill the queue -/
theorem drop_only_when_full (s s' : St) (p e0 : Nat) (hp : s.pr p = .add e0) (hs : step s (.pStep p true) = some s') :
    s.begun - 1 - e0 ≥ s.maxQ := by
  simp only [step, pStep, hp] at hs
  by_cases hg : dropGuard s e0
  · exact hg
  · simp [hg] at hs

/-- … **in particular never when at most `max_queue_size` records are produced between two completed flushes**: if a
    `ForceFlush` that began when `bh` records were committed had returned true before this `Add` began (so
    `bh ≤ exported` then, `flush_complete`), and at most `max_queue_size` `Add`s — this one included — have begun that
    were not already committed when that flush began, the `Add` cannot fail -/
theorem no_drop_between_flushes (s : St) (p e0 bh : Nat) (hp : s.pr p = .add e0) (hflushed : bh ≤ e0)
    (hfew : s.begun - bh ≤ s.maxQ) (hpos : 1 ≤ s.begun) (hq : 1 ≤ s.maxQ) : step s (.pStep p true) = none := by
  simp only [step, pStep, hp]
  have : ¬ dropGuard s e0 := by unfold dropGuard; omega
  simp [this]

/-- **producers never wait**: no producer step is guarded by a lock, by the worker or by the exporter — outside `Add`
    every step is enabled, and inside `Add` a commit is enabled whenever the queue has room (the queue operations
    themselves are lock-free: C11) -/
theorem producer_never_waits (s : St) (p : Nat) :
    (∀ e0, s.pr p ≠ .add e0) → (step s (.pStep p false)).isSome = true := by
  intro hne
  cases hpc : s.pr p with
  | add e0 => exact absurd hpc (hne e0)
  | chk => simp only [step, pStep, hpc]; split <;> simp
  | _ => simp [step, pStep, hpc]

theorem commit_enabled_when_room (s : St) (p e0 : Nat) (hp : s.pr p = .add e0) (hroom : s.head - s.tail < s.maxQ) :
    (step s (.pStep p false)).isSome = true := by
  simp [step, pStep, hp, hroom]

end batch

/-- C11's four theorems about the queue, cited here because C01's text speaks of the queue itself: what the consumer
    has taken is a prefix of the commit log, without repetition, all of it once the queue is drained, and in each
    producer's own order -/
theorem queue_exactly_once {cap : Nat} (hc : 2 ≤ cap) {as : List Ring.Act} {s : Ring.St} (h : Ring.run (Ring.init cap) as = some s) :
    s.out = s.log.take s.clr ∧ s.out.Nodup ∧ (s.clr = s.head → s.out = s.log) ∧
    (∀ p, (s.out.filter (fun e => s.own e == p)).Pairwise (· < ·)) :=
  ⟨C11.consumed_is_log_prefix hc h, C11.consumed_at_most_once hc h, C11.drained_all hc h, C11.per_producer_fifo hc h⟩

end Otel.C01
