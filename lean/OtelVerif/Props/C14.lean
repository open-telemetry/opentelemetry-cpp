import OtelVerif.Model.TraceState
import OtelVerif.Lemmas.Bytes
import OtelVerif.Lemmas.Regex
/-! # C14 — TraceState stays a valid, duplicate-free W3C list under every update

Theorems about `Model/TraceState.lean` + `Model/KvList.lean` (mirroring `trace_state.h`, `kv_properties.h`).
The validators are the three `std::regex` literals re-extracted from the source (`Gen/TraceState.lean`); the
W3C grammar below is written by hand from the header's documentation.  32 / 255 / 240 / 13 are literals here. -/
namespace Otel.C14
open Otel Otel.TraceState

/-! The W3C grammar, written by hand. -/

def IsLcAlnum (c : UInt8) : Prop := (97 ≤ c ∧ c ≤ 122) ∨ (48 ≤ c ∧ c ≤ 57)
def IsKeyChar (c : UInt8) : Prop := IsLcAlnum c ∨ c = 95 ∨ c = 45 ∨ c = 42 ∨ c = 47
/-- printable ASCII except `,` and `=` -/
def IsValChar (c : UInt8) : Prop := 32 ≤ c ∧ c ≤ 126 ∧ c ≠ 44 ∧ c ≠ 61

instance : DecidablePred IsLcAlnum := fun c => by unfold IsLcAlnum; exact inferInstance
instance : DecidablePred IsKeyChar := fun c => by unfold IsKeyChar; exact inferInstance
instance : DecidablePred IsValChar := fun c => by unfold IsValChar; exact inferInstance

/-- `[a-z0-9]` followed by at most 255 key characters (256 characters in all) -/
def SimpleKey (k : Bytes) : Prop := ∃ c t, k = c :: t ∧ IsLcAlnum c ∧ (∀ x ∈ t, IsKeyChar x) ∧ t.length ≤ 255
/-- `tenant@system`: tenant ≤ 241 characters, system ≤ 14 characters, each starting with `[a-z0-9]` -/
def TenantKey (k : Bytes) : Prop := ∃ c t c' t', k = (c :: t) ++ 64 :: (c' :: t') ∧ IsLcAlnum c ∧ (∀ x ∈ t, IsKeyChar x) ∧
  t.length ≤ 240 ∧ IsLcAlnum c' ∧ (∀ x ∈ t', IsKeyChar x) ∧ t'.length ≤ 13
def ValidKey (k : Bytes) : Prop := SimpleKey k ∨ TenantKey k
/-- 1…256 printable characters without `,` `=`, not ending in a space -/
def ValidValue (v : Bytes) : Prop := ∃ t c, v = t ++ [c] ∧ (∀ x ∈ t, IsValChar x) ∧ t.length ≤ 255 ∧ IsValChar c ∧ c ≠ 32

def ValidEntry (e : Bytes × Bytes) : Prop := ValidKey e.1 ∧ ValidValue e.2
/-- a well-formed trace state: only grammar-valid members, at most 32 of them -/
def WF (es : Entries) : Prop := (∀ e ∈ es, ValidEntry e) ∧ es.length ≤ 32

def clsStart : RxItem := ⟨[(48, 57), (97, 122)], 1, some 1⟩
def clsKey (n : Nat) : RxItem := ⟨[(42, 42), (45, 45), (47, 57), (95, 95), (97, 122)], 0, some n⟩

theorem gen_regKey : Gen.regKey = [clsStart, clsKey 255] := rfl
theorem gen_regKeyMt : Gen.regKeyMultitenant = [clsStart, clsKey 240, ⟨[(64, 64)], 1, some 1⟩, clsStart, clsKey 13] := rfl
theorem gen_regValue : Gen.regValue = [⟨[(32, 43), (45, 60), (62, 126)], 0, some 255⟩, ⟨[(33, 43), (45, 60), (62, 126)], 1, some 1⟩] := rfl
theorem gen_consts : Gen.kMaxKeyValuePairs = 32 ∧ Gen.kKeyValueSeparator = 61 ∧ Gen.kMembersSeparator = 44 := by decide

/-! Each generated class is the hand-written one: membership in the ranges and the order of bytes become
    inequalities between `toNat`s. -/

theorem clsStart_has (c : UInt8) : clsStart.has c = true ↔ IsLcAlnum c := by
  simp only [clsStart, RxItem.has, IsLcAlnum, List.any_cons, List.any_nil, Bool.or_false, Bool.or_eq_true, Bool.and_eq_true,
    decide_eq_true_eq, UInt8.le_iff_toNat_le, UInt8.reduceToNat]
  omega

theorem clsKey_has (n : Nat) (c : UInt8) : (clsKey n).has c = true ↔ IsKeyChar c := by
  simp only [clsKey, RxItem.has, IsKeyChar, IsLcAlnum, List.any_cons, List.any_nil, Bool.or_false, Bool.or_eq_true,
    Bool.and_eq_true, decide_eq_true_eq, UInt8.le_iff_toNat_le, UInt8.reduceToNat, ← UInt8.toNat_inj]
  omega

theorem clsAt_has (c : UInt8) : (⟨[(64, 64)], 1, some 1⟩ : RxItem).has c = true ↔ c = 64 := by
  simp only [RxItem.has, List.any_cons, List.any_nil, Bool.or_false, Bool.and_eq_true, decide_eq_true_eq,
    UInt8.reduceToNat, ← UInt8.toNat_inj]
  omega

theorem clsVal_has (c : UInt8) : (⟨[(32, 43), (45, 60), (62, 126)], 0, some 255⟩ : RxItem).has c = true ↔ IsValChar c := by
  simp only [RxItem.has, IsValChar, List.any_cons, List.any_nil, Bool.or_false, Bool.or_eq_true, Bool.and_eq_true,
    decide_eq_true_eq, UInt8.le_iff_toNat_le, UInt8.reduceToNat, ne_eq, ← UInt8.toNat_inj]
  omega

theorem clsValEnd_has (c : UInt8) :
    (⟨[(33, 43), (45, 60), (62, 126)], 1, some 1⟩ : RxItem).has c = true ↔ (IsValChar c ∧ c ≠ 32) := by
  simp only [RxItem.has, IsValChar, List.any_cons, List.any_nil, Bool.or_false, Bool.or_eq_true, Bool.and_eq_true,
    decide_eq_true_eq, UInt8.le_iff_toNat_le, UInt8.reduceToNat, ne_eq, ← UInt8.toNat_inj]
  omega

/-- an item `{1,1}` consumes exactly one byte of its class -/
theorem RxSem_one (r : List (Nat × Nat)) (rest : List RxItem) (s : Bytes) :
    RxSem (⟨r, 1, some 1⟩ :: rest) s ↔ ∃ c t, s = c :: t ∧ (⟨r, 1, some 1⟩ : RxItem).has c = true ∧ RxSem rest t := by
  simp only [RxSem, RxItem.allows]
  constructor
  · rintro ⟨a, b, hab, hlo, hal, hall, hb⟩
    simp only [decide_eq_true_eq] at hal
    match a, hlo, hal with
    | [c], _, _ => exact ⟨c, b, by simpa using hab, hall c (by simp), hb⟩
  · rintro ⟨c, t, hs, hc, ht⟩
    exact ⟨[c], t, by simpa using hs, by simp, by simp, by simpa using hc, ht⟩

/-- an item `{0,n}` consumes at most `n` bytes of its class (conjuncts in the order of the hand-written grammar) -/
theorem RxSem_upto (r : List (Nat × Nat)) (n : Nat) (rest : List RxItem) (s : Bytes) :
    RxSem (⟨r, 0, some n⟩ :: rest) s ↔
      ∃ a b, s = a ++ b ∧ (∀ c ∈ a, (⟨r, 0, some n⟩ : RxItem).has c = true) ∧ a.length ≤ n ∧ RxSem rest b := by
  simp only [RxSem, RxItem.allows, decide_eq_true_eq, Nat.zero_le, true_and]
  exact exists_congr fun _ => exists_congr fun _ => and_congr_right fun _ => and_left_comm

theorem RxSem_nil (s : Bytes) : RxSem [] s ↔ s = [] := Iff.rfl

/-- a last item `{0,n}` takes the whole rest -/
theorem RxSem_upto_end (r : List (Nat × Nat)) (n : Nat) (s : Bytes) :
    RxSem [⟨r, 0, some n⟩] s ↔ (∀ c ∈ s, (⟨r, 0, some n⟩ : RxItem).has c = true) ∧ s.length ≤ n := by
  rw [RxSem_upto]
  constructor
  · rintro ⟨a, b, rfl, hall, hl, rfl⟩
    rw [List.append_nil]
    exact ⟨hall, hl⟩
  · rintro ⟨hall, hl⟩
    exact ⟨s, [], (List.append_nil s).symm, hall, hl, rfl⟩

theorem isValidKey_iff (k : Bytes) : isValidKey k = true ↔ ValidKey k := by
  unfold isValidKey ValidKey
  rw [Bool.or_eq_true, rxMatch_iff, rxMatch_iff, gen_regKey, gen_regKeyMt]
  have hs := clsStart_has
  have hk := clsKey_has
  unfold clsStart at hs ⊢
  unfold clsKey at hk ⊢
  -- both sides as existentials over the chunks: the simple key literally, the tenant key nested instead of flat
  -- (`↓`: tried first, before `RxSem_upto` splits an empty remainder off the last item)
  simp only [↓RxSem_upto_end, RxSem_one, RxSem_upto, hs, hk, clsAt_has, SimpleKey, TenantKey]
  refine or_congr Iff.rfl ⟨?_, ?_⟩
  · rintro ⟨c, _, rfl, hc, t, _, rfl, hall, hl, _, _, rfl, rfl, c', t', rfl, hc', hall', hl'⟩
    exact ⟨c, t, c', t', rfl, hc, hall, hl, hc', hall', hl'⟩
  · rintro ⟨c, t, c', t', rfl, hc, hall, hl, hc', hall', hl'⟩
    exact ⟨c, _, rfl, hc, t, _, rfl, hall, hl, 64, _, rfl, rfl, c', t', rfl, hc', hall', hl'⟩

theorem isValidValue_iff (v : Bytes) : isValidValue v = true ↔ ValidValue v := by
  unfold isValidValue ValidValue
  rw [rxMatch_iff, gen_regValue]
  simp only [RxSem_one, RxSem_upto, RxSem_nil, clsVal_has, clsValEnd_has]
  constructor
  · rintro ⟨t, _, rfl, hall, hl, c, _, rfl, ⟨hc, hne⟩, rfl⟩
    exact ⟨t, c, rfl, hall, hl, hc, hne⟩
  · rintro ⟨t, c, rfl, hall, hl, hc, hne⟩
    exact ⟨t, _, rfl, hall, hl, c, _, rfl, ⟨hc, hne⟩, rfl⟩

theorem add_cap (p : KvProps) (k v : Bytes) : (p.add k v).cap = p.cap := by
  unfold KvProps.add; split <;> rfl

theorem add_entries (p : KvProps) (k v : Bytes) (h : p.entries.length < p.cap) :
    (p.add k v).entries = p.entries ++ [(k, v)] ∧ (p.add k v).cap = p.cap :=
  ⟨by simp [KvProps.add, h], add_cap p k v⟩

theorem add_length_le (p : KvProps) (k v : Bytes) (h : p.entries.length ≤ p.cap) :
    (p.add k v).entries.length ≤ (p.add k v).cap := by
  unfold KvProps.add
  split
  · simp; omega
  · exact h

theorem foldl_add_filter (f : Bytes × Bytes → Bool) : ∀ (es : Entries) (p : KvProps),
    p.entries.length + (es.filter f).length ≤ p.cap →
    (es.foldl (fun p e => if f e then p.add e.1 e.2 else p) p).entries = p.entries ++ es.filter f := by
  intro es
  induction es with
  | nil => intro p _; simp
  | cons e t ih =>
    intro p h
    simp only [List.foldl_cons]
    by_cases hf : f e = true
    · simp only [hf, if_true, List.filter_cons_of_pos] at h ⊢
      have hlt : p.entries.length < p.cap := by simp at h; omega
      obtain ⟨h1, h2⟩ := add_entries p e.1 e.2 hlt
      rw [ih (p.add e.1 e.2) (by rw [h1, h2]; simp at h ⊢; omega), h1]
      simp
    · simp only [hf, Bool.false_eq_true, if_false] at h ⊢
      rw [List.filter_cons_of_neg (by simpa using hf)] at h ⊢
      exact ih p h

theorem foldl_add_all (es : Entries) (p : KvProps) (h : p.entries.length + es.length ≤ p.cap) :
    (es.foldl (fun p e => p.add e.1 e.2) p).entries = p.entries ++ es := by
  have hf : es.filter (fun _ => true) = es := List.filter_eq_self.2 (fun _ _ => rfl)
  simpa [hf] using foldl_add_filter (fun _ => true) es p (by rw [hf]; exact h)

/-- `Set` and `Delete` copy every member whose key differs from `k` -/
theorem foldl_add_others (k : Bytes) (es : Entries) (p : KvProps)
    (h : p.entries.length + (es.filter (fun e => !(e.1 == k))).length ≤ p.cap) :
    (es.foldl (fun p e => if !(k == e.1) then p.add e.1 e.2 else p) p).entries = p.entries ++ es.filter (fun e => !(e.1 == k)) := by
  have hf : (fun e : Bytes × Bytes => !(k == e.1)) = fun e => !(e.1 == k) := funext fun e => by rw [Bool.beq_comm]
  rw [← hf] at h ⊢
  exact foldl_add_filter _ es p h

theorem others_length_lt : ∀ {es : Entries} {k : Bytes}, es.any (·.1 == k) = true →
    (es.filter (fun e => !(e.1 == k))).length < es.length := by
  intro es k h
  induction es with
  | nil => nomatch h
  | cons e t ih =>
    have hle := List.length_filter_le (fun e => !(e.1 == k)) t
    rw [List.filter_cons, List.length_cons]
    cases he : e.1 == k
    · rw [List.any_cons, he, Bool.false_or] at h
      have := ih h
      rw [Bool.not_false, if_pos rfl, List.length_cons]
      omega
    · rw [Bool.not_true, if_neg Bool.false_ne_true]
      omega

/-- **What `Set` does**, for every list and every valid key/value: if the key is already present, or there are fewer
    than 32 members, the result is the new member first followed by every other member once, in its previous order
    (all members with that key removed); otherwise (a new key on a full list) the list is returned unchanged. -/
theorem set_spec (es : Entries) (k v : Bytes) (hk : isValidKey k = true) (hv : isValidValue v = true) :
    set es k v = if es.any (·.1 == k) || decide (es.length < 32) then (k, v) :: es.filter (fun e => !(e.1 == k)) else es := by
  obtain ⟨g1, _, _⟩ := gen_consts
  unfold TraceState.set
  simp only [hk, hv, Bool.and_self, Bool.not_true, Bool.false_eq_true, if_false, g1]
  cases hex : es.any (·.1 == k)
  · -- a new key: every member is copied; the new one goes in front when there is room
    have hnone : es.filter (fun e => !(e.1 == k)) = es :=
      List.filter_eq_self.2 fun e he => by simpa using List.any_eq_false.1 hex e he
    simp only [Bool.not_false, Bool.true_and, Bool.false_or, Bool.true_or, if_true]
    by_cases hl : es.length < 32
    · have hadd := add_entries (⟨es.length + 1, []⟩ : KvProps) k v (by simp)
      simp only [hl, decide_true, if_true]
      rw [foldl_add_all es _ (by rw [hadd.1, hadd.2]; simp; omega), hadd.1, hnone]
      rfl
    · simp only [hl, decide_false, Bool.false_eq_true, if_false]
      rw [foldl_add_all es _ (by simp)]
      rfl
  · -- an existing key: the new member first, then the members with other keys (one fewer at least)
    have hflt := others_length_lt hex
    have hadd := add_entries (⟨es.length, []⟩ : KvProps) k v (by simp only [List.length_nil]; omega)
    simp only [Bool.not_true, Bool.false_and, Bool.false_eq_true, if_false, Bool.true_or, if_true, Bool.false_or]
    rw [foldl_add_others k es _ (by rw [hadd.1, hadd.2]; simp; omega), hadd.1]
    rfl

/-- an invalid key or value yields the empty default state, not a partial one -/
theorem set_invalid_default (es : Entries) (k v : Bytes) (h : isValidKey k = false ∨ isValidValue v = false) :
    set es k v = [] := by
  unfold TraceState.set
  rcases h with h | h <;> simp [h]

theorem set_places_first (es : Entries) (k v : Bytes) (hk : isValidKey k = true) (hv : isValidValue v = true)
    (hroom : es.any (·.1 == k) = true ∨ es.length < 32) :
    ∃ rest, set es k v = (k, v) :: rest ∧ rest = es.filter (fun e => !(e.1 == k)) := by
  rw [set_spec es k v hk hv]
  have : (es.any (·.1 == k) || decide (es.length < 32)) = true := by
    rcases hroom with h | h <;> simp [h]
  simp [this]

/-- … and never produces a second member with the same key: the key occurs exactly once in the result -/
theorem set_key_unique (es : Entries) (k v : Bytes) (hk : isValidKey k = true) (hv : isValidValue v = true)
    (hroom : es.any (·.1 == k) = true ∨ es.length < 32) :
    ((set es k v).filter (fun e => e.1 == k)).length = 1 := by
  obtain ⟨rest, h1, h2⟩ := set_places_first es k v hk hv hroom
  rw [h1, h2]
  simp [List.filter_filter]

/-- every other member is kept once and in its previous relative order -/
theorem set_keeps_others (es : Entries) (k v : Bytes) (hk : isValidKey k = true) (hv : isValidValue v = true)
    (hroom : es.any (·.1 == k) = true ∨ es.length < 32) :
    (set es k v).filter (fun e => !(e.1 == k)) = es.filter (fun e => !(e.1 == k)) := by
  obtain ⟨rest, h1, h2⟩ := set_places_first es k v hk hv hroom
  rw [h1, h2]
  simp [List.filter_filter]

/-- a key not yet present is refused with an unchanged copy when the list already holds 32 members -/
theorem set_full_new_refused (es : Entries) (k v : Bytes) (hk : isValidKey k = true) (hv : isValidValue v = true)
    (hnew : es.any (·.1 == k) = false) (hfull : 32 ≤ es.length) : set es k v = es := by
  rw [set_spec es k v hk hv]
  have : ¬ es.length < 32 := by omega
  simp [hnew, this]

/-- … while a key that is present is updated even at 32 members (D06) -/
theorem set_full_existing_updates (es : Entries) (k v : Bytes) (hk : isValidKey k = true) (hv : isValidValue v = true)
    (hex : es.any (·.1 == k) = true) : set es k v = (k, v) :: es.filter (fun e => !(e.1 == k)) := by
  obtain ⟨_, h, rfl⟩ := set_places_first es k v hk hv (Or.inl hex)
  exact h

/-- `Delete` removes exactly the given key: every member with another key stays, in order -/
theorem delete_exact (es : Entries) (k : Bytes) (hk : isValidKey k = true) :
    delete es k = es.filter (fun e => !(e.1 == k)) := by
  unfold TraceState.delete
  simp only [hk, Bool.not_true, Bool.false_eq_true, if_false]
  have hcap : (es.filter (fun e => !(e.1 == k))).length ≤ (if es.any (·.1 == k) = true then es.length - 1 else es.length) := by
    split
    · rename_i hex
      have := others_length_lt hex
      omega
    · exact List.length_filter_le _ _
  rw [foldl_add_others k es _ (by simpa using hcap)]
  rfl

theorem delete_invalid_default (es : Entries) (k : Bytes) (hk : isValidKey k = false) : delete es k = [] := by
  simp [TraceState.delete, hk]

theorem get_set (es : Entries) (k v : Bytes) (hk : isValidKey k = true) (hv : isValidValue v = true)
    (hroom : es.any (·.1 == k) = true ∨ es.length < 32) : get (set es k v) k = some v := by
  obtain ⟨rest, h1, _⟩ := set_places_first es k v hk hv hroom
  unfold TraceState.get
  simp [hk, h1]

/-- `Get` of another key is unaffected by `Set` -/
theorem get_set_other (es : Entries) (k v k' : Bytes) (hk : isValidKey k = true) (hv : isValidValue v = true)
    (hroom : es.any (·.1 == k) = true ∨ es.length < 32) (hne : k' ≠ k) : get (set es k v) k' = get es k' := by
  obtain ⟨rest, h1, h2⟩ := set_places_first es k v hk hv hroom
  unfold TraceState.get
  split
  · rw [h1, h2]
    have hkk : ((k, v).1 == k') = false := by simpa using fun e => hne e.symm
    rw [List.find?_cons_of_neg (by simpa using hkk), List.find?_filter]
    -- the filter "key ≠ k" lets pass every member the search for `k'` stops at, since `k' ≠ k`
    congr 2
    funext e
    by_cases he : (e.1 == k') = true
    · have hek : ¬ e.1 = k := fun hek => hne ((beq_iff_eq.1 he).symm.trans hek)
      simp [he, hek]
    · simp [he]
  · rfl

theorem get_delete (es : Entries) (k : Bytes) (hk : isValidKey k = true) : get (delete es k) k = none := by
  rw [delete_exact es k hk]
  unfold TraceState.get
  simp [hk, List.find?_filter]

theorem wf_nil : WF [] := ⟨nofun, Nat.zero_le _⟩

theorem wf_set (es : Entries) (k v : Bytes) (h : WF es) : WF (set es k v) := by
  by_cases hk : isValidKey k = true
  · by_cases hv : isValidValue v = true
    · rw [set_spec es k v hk hv]
      split
      · rename_i hc
        refine ⟨List.forall_mem_cons.2 ⟨⟨(isValidKey_iff _).1 hk, (isValidValue_iff _).1 hv⟩,
          fun e he => h.1 e (List.mem_filter.1 he).1⟩, ?_⟩
        -- an update drops at least the old member; an insertion happens below 32 members
        rw [Bool.or_eq_true, decide_eq_true_eq] at hc
        have hle := List.length_filter_le (fun e => !(e.1 == k)) es
        have h32 := h.2
        rw [List.length_cons]
        rcases hc with hc | hc
        · have := others_length_lt hc
          omega
        · omega
      · exact h
    · rw [set_invalid_default es k v (Or.inr (by simpa using hv))]; exact wf_nil
  · rw [set_invalid_default es k v (Or.inl (by simpa using hk))]; exact wf_nil

theorem wf_delete (es : Entries) (k : Bytes) (h : WF es) : WF (delete es k) := by
  by_cases hk : isValidKey k = true
  · rw [delete_exact es k hk]
    exact ⟨fun e he => h.1 e (List.mem_filter.1 he).1, Nat.le_trans (List.length_filter_le _ _) h.2⟩
  · rw [delete_invalid_default es k (by simpa using hk)]; exact wf_nil

/-- what `FromHeader` accepts for one list member: `key=value` split at the first `=`, both grammar-valid -/
def parseValid (m : Bytes) : Option (Bytes × Bytes) :=
  match splitKv 61 m with
  | none => none
  | some (k, v) => if isValidKey k && isValidValue v then some (k, v) else none

theorem kvMembers_length_le (sep : UInt8) : ∀ (fuel : Nat) (s : Bytes),
    (kvMembers sep fuel s).length ≤ numTokens sep fuel s := by
  intro fuel
  induction fuel with
  | zero => intro s; simp [kvMembers, numTokens]
  | succ fuel ih =>
    intro s
    cases s with
    | nil => simp [kvMembers, numTokens]
    | cons c t =>
      simp only [kvMembers, numTokens]
      generalize takeTok sep (c :: t) = r
      obtain ⟨tok, o⟩ := r
      cases o with
      -- an empty (all white space) member is skipped but still counted: `≤`, not `=`
      | none => simp only; split <;> simp
      | some rest =>
        simp only
        have := ih rest
        split <;> simp <;> omega

theorem members_length_le (sep : UInt8) (s : Bytes) : (members sep s).length ≤ numTok sep s :=
  kvMembers_length_le sep s.length s

theorem parseMembers_spec : ∀ (ms : List Bytes) (p : KvProps), p.entries.length + ms.length ≤ p.cap →
    parseMembers 61 ms p = (ms.mapM parseValid).map (fun l => ⟨p.cap, p.entries ++ l⟩) := by
  intro ms
  induction ms with
  | nil => intro p _; simp [parseMembers]
  | cons m ms ih =>
    intro p h
    simp only [parseMembers, List.mapM_cons, parseValid]
    cases hs : splitKv 61 m with
    | none => simp
    | some kv =>
      obtain ⟨k, v⟩ := kv
      simp only
      by_cases hval : (isValidKey k && isValidValue v) = true
      · simp only [hval, if_true]
        have hlt : p.entries.length < p.cap := by simp at h; omega
        obtain ⟨h1, h2⟩ := add_entries p k v hlt
        rw [ih (p.add k v) (by rw [h1, h2]; simp at h ⊢; omega), h1, h2]
        cases ms.mapM parseValid <;> simp
      · simp [hval]

/-- **`FromHeader` is all-or-nothing**: for every header byte string, the result is the empty default state when
    the header has more than 32 list members or any member is not a grammar-valid `key=value`; otherwise it is
    exactly the members, in order. -/
theorem fromHeader_spec (h : Bytes) :
    fromHeader h = if numTok 44 h > 32 then [] else ((members 44 h).mapM parseValid).getD [] := by
  obtain ⟨g1, g2, g3⟩ := gen_consts
  unfold fromHeader
  simp only [g1, g2, g3]
  split
  · rfl
  · rw [parseMembers_spec _ _ (by simpa using members_length_le 44 h)]
    cases (members 44 h).mapM parseValid <;> simp

theorem validEntry_of_parseValid {m : Bytes} {e : Bytes × Bytes} (h : parseValid m = some e) : ValidEntry e := by
  unfold parseValid at h
  split at h
  · cases h
  · split at h
    · rename_i hv
      cases h
      rw [Bool.and_eq_true] at hv
      exact ⟨(isValidKey_iff _).1 hv.1, (isValidValue_iff _).1 hv.2⟩
    · cases h

theorem mapM_cons_eq_some {α β : Type} (f : α → Option β) (a : α) (as : List α) (l : List β) :
    (a :: as).mapM f = some l ↔ ∃ b bs, f a = some b ∧ as.mapM f = some bs ∧ l = b :: bs := by
  rw [List.mapM_cons]
  cases f a <;> cases as.mapM f <;> simp [eq_comm]

theorem mapM_parseValid_valid : ∀ (ms : List Bytes) (l : Entries), ms.mapM parseValid = some l →
    (∀ e ∈ l, ValidEntry e) ∧ l.length = ms.length := by
  intro ms
  induction ms with
  | nil => intro l h; cases h; exact ⟨nofun, rfl⟩
  | cons m ms ih =>
    intro l h
    obtain ⟨e, l', hp, hr, rfl⟩ := (mapM_cons_eq_some _ _ _ _).1 h
    obtain ⟨ih1, ih2⟩ := ih l' hr
    exact ⟨List.forall_mem_cons.2 ⟨validEntry_of_parseValid hp, ih1⟩, by rw [List.length_cons, List.length_cons, ih2]⟩

/-- every TraceState obtained by parsing a header contains only grammar-valid keys and values and at most 32 members -/
theorem wf_fromHeader (h : Bytes) : WF (fromHeader h) := by
  rw [fromHeader_spec]
  split
  · exact wf_nil
  · rename_i hc
    cases hm : (members 44 h).mapM parseValid with
    | none => exact wf_nil
    | some l =>
      obtain ⟨h1, h2⟩ := mapM_parseValid_valid _ l hm
      exact ⟨by simpa using h1, by rw [Option.getD_some, h2]; exact Nat.le_trans (members_length_le 44 h) (Nat.le_of_not_gt hc)⟩

/-- a header with more than 32 list members yields the empty default state -/
theorem overlong_header_empty (h : Bytes) (hc : numTok 44 h > 32) : fromHeader h = [] := by
  rw [fromHeader_spec]; simp [hc]

/-- a header with an invalid member yields the empty default state rather than a partial one -/
theorem invalid_member_header_empty (h : Bytes) (m : Bytes) (hm : m ∈ members 44 h) (hbad : parseValid m = none) :
    fromHeader h = [] := by
  rw [fromHeader_spec]
  split
  · rfl
  · have : (members 44 h).mapM parseValid = none := by
      generalize members 44 h = ms at hm
      induction ms with
      | nil => simp at hm
      | cons x xs ih =>
        simp only [List.mapM_cons]
        simp only [List.mem_cons] at hm
        rcases hm with rfl | hm
        · simp [hbad]
        · cases parseValid x <;> simp [ih hm]
    simp [this]

def member (e : Bytes × Bytes) : Bytes := e.1 ++ 61 :: e.2

/-- the bytes of a valid key are key characters or `@`: none is `,`, `=` or white space -/
theorem keyByte_facts (c : UInt8) (h : IsKeyChar c ∨ c = 64) : c ≠ 44 ∧ c ≠ 61 ∧ isSpace c = false := by
  simp only [IsKeyChar, IsLcAlnum, isSpace, UInt8.le_iff_toNat_le, UInt8.reduceToNat, ne_eq, ← UInt8.toNat_inj,
    Bool.or_eq_false_iff, Bool.and_eq_false_iff, beq_eq_false_iff_ne, decide_eq_false_iff_not] at h ⊢
  omega

theorem valChar_facts (c : UInt8) (h : IsValChar c) : c ≠ 44 ∧ c ≠ 61 ∧ (c ≠ 32 → isSpace c = false) := by
  simp only [IsValChar, isSpace, UInt8.le_iff_toNat_le, UInt8.reduceToNat, ne_eq, ← UInt8.toNat_inj, Bool.or_eq_false_iff,
    Bool.and_eq_false_iff, beq_eq_false_iff_ne, decide_eq_false_iff_not] at h ⊢
  omega

theorem validKey_bytes (k : Bytes) (h : ValidKey k) : ∃ c t, k = c :: t ∧ ∀ x ∈ k, IsKeyChar x ∨ x = 64 := by
  rcases h with ⟨c, t, rfl, hc, hall, _⟩ | ⟨c, t, c', t', rfl, hc, hall, _, hc', hall', _⟩
  · exact ⟨c, t, rfl, List.forall_mem_cons.2 ⟨Or.inl (Or.inl hc), fun x hx => Or.inl (hall x hx)⟩⟩
  · refine ⟨c, t ++ 64 :: c' :: t', rfl, ?_⟩
    simp only [List.cons_append, List.forall_mem_cons, List.forall_mem_append]
    exact ⟨Or.inl (Or.inl hc), fun x hx => Or.inl (hall x hx), Or.inr trivial, Or.inl (Or.inl hc'),
      fun x hx => Or.inl (hall' x hx)⟩

theorem member_facts (e : Bytes × Bytes) (h : ValidEntry e) :
    (44 : UInt8) ∉ member e ∧ trim (member e) = member e ∧ (member e).isEmpty = false ∧ parseValid (member e) = some e := by
  obtain ⟨c, t, hk, hkb⟩ := validKey_bytes e.1 h.1
  obtain ⟨t', d, hv, hall, _, hd, hne⟩ := h.2
  have key_no_comma : ∀ x ∈ e.1, x ≠ 44 := fun x hx => (keyByte_facts x (hkb x hx)).1
  have key_no_eq : ∀ x ∈ e.1, x ≠ 61 := fun x hx => (keyByte_facts x (hkb x hx)).2.1
  have head_no_space : isSpace c = false := (keyByte_facts c (hkb c (by rw [hk]; exact List.mem_cons_self))).2.2
  have val_no_comma : ∀ x, IsValChar x → x ≠ 44 := fun x hx => (valChar_facts x hx).1
  have last_no_space : isSpace d = false := (valChar_facts d hd).2.2 hne
  unfold member
  refine ⟨?_, ?_, ?_, ?_⟩
  · intro hm
    rw [hv, List.mem_append, List.mem_cons, List.mem_append, List.mem_singleton] at hm
    rcases hm with hm | hm | hm | rfl
    · exact key_no_comma 44 hm rfl
    · exact absurd hm (by decide)
    · exact val_no_comma 44 (hall 44 hm) rfl
    · exact val_no_comma 44 hd rfl
  · exact trim_id_of_ends _ c d (t ++ 61 :: t') (by rw [hk, hv]; simp) head_no_space last_no_space
  · rw [hk]; rfl
  · unfold parseValid splitKv
    rw [takeTok_append_sep e.1 e.2 (fun hm => key_no_eq 61 hm rfl)]
    simp only [(isValidKey_iff _).2 h.1, (isValidValue_iff _).2 h.2, Bool.and_self, if_true]

theorem toHeader_nil : toHeader [] = [] := rfl
theorem toHeader_single (e : Bytes × Bytes) : toHeader [e] = member e := by
  obtain ⟨g1, g2, g3⟩ := gen_consts
  obtain ⟨k, v⟩ := e
  simp [toHeader, member, g2]
theorem toHeader_cons2 (e e' : Bytes × Bytes) (t : Entries) : toHeader (e :: e' :: t) = member e ++ 44 :: toHeader (e' :: t) := by
  obtain ⟨g1, g2, g3⟩ := gen_consts
  obtain ⟨k, v⟩ := e
  simp [toHeader, member, g2, g3]

/-- one round of the tokenizer (and of `NumTokens`) on a member that is trimmed, non-empty and free of `,`:
    followed by `,` and more, or last -/
theorem tokenizer_step {m : Bytes} (h1 : (44 : UInt8) ∉ m) (h2 : trim m = m) (h3 : m.isEmpty = false) (fuel : Nat) (r : Bytes) :
    kvMembers 44 (fuel + 1) (m ++ 44 :: r) = m :: kvMembers 44 fuel r ∧ kvMembers 44 (fuel + 1) m = [m] ∧
    numTokens 44 (fuel + 1) (m ++ 44 :: r) = 1 + numTokens 44 fuel r ∧ numTokens 44 (fuel + 1) m = 1 := by
  have t1 := takeTok_append_sep m r h1
  have t2 := takeTok_no_sep m h1
  cases m with
  | nil => cases h3
  | cons c t =>
    rw [List.cons_append] at t1
    simp only [List.cons_append, kvMembers, numTokens, t1, t2, h2, h3, Bool.false_eq_true, if_false, and_self]

theorem members_toHeader : ∀ (es : Entries), (∀ e ∈ es, ValidEntry e) → ∀ fuel, (toHeader es).length ≤ fuel →
    kvMembers 44 fuel (toHeader es) = es.map member ∧ numTokens 44 fuel (toHeader es) = es.length := by
  intro es
  induction es with
  | nil => intro _ fuel _; cases fuel <;> simp [toHeader_nil, kvMembers, numTokens]
  | cons e es ih =>
    intro h fuel hf
    obtain ⟨m1, m2, m3, _⟩ := member_facts e (h e (by simp))
    cases es with
    | nil =>
      rw [toHeader_single] at hf ⊢
      cases fuel with
      | zero => rw [List.eq_nil_of_length_eq_zero (Nat.le_zero.1 hf)] at m3; cases m3
      | succ fuel =>
        obtain ⟨_, lastMember, _, lastCount⟩ := tokenizer_step m1 m2 m3 fuel []
        exact ⟨lastMember, lastCount⟩
    | cons e' t =>
      rw [toHeader_cons2, List.length_append, List.length_cons] at hf
      rw [toHeader_cons2]
      cases fuel with
      | zero => omega
      | succ fuel =>
        obtain ⟨hrec1, hrec2⟩ := ih (fun x hx => h x (by simp [hx])) fuel (by omega)
        obtain ⟨moreMembers, _, moreCount, _⟩ := tokenizer_step m1 m2 m3 fuel (toHeader (e' :: t))
        rw [moreMembers, moreCount, hrec1, hrec2]
        exact ⟨rfl, by simp only [List.length_cons]; omega⟩

theorem mapM_parseValid_members : ∀ (es : Entries), (∀ e ∈ es, ValidEntry e) → (es.map member).mapM parseValid = some es := by
  intro es h
  induction es with
  | nil => rfl
  | cons e t ih =>
    obtain ⟨_, _, _, hparse⟩ := member_facts e (h e (by simp))
    simp only [List.map_cons, List.mapM_cons, hparse, ih (fun x hx => h x (by simp [hx]))]
    rfl

/-- **Round trip**: for every well-formed trace state (grammar-valid members, at most 32),
    `FromHeader (ToHeader es)` reproduces the same ordered list. -/
theorem fromHeader_toHeader (es : Entries) (h : WF es) : fromHeader (toHeader es) = es := by
  obtain ⟨h1, h2⟩ := members_toHeader es h.1 (toHeader es).length (Nat.le_refl _)
  rw [fromHeader_spec]
  have hn : numTok 44 (toHeader es) = es.length := h2
  have hm : members 44 (toHeader es) = es.map member := h1
  have : ¬ es.length > 32 := by have := h.2; omega
  rw [hn, hm, mapM_parseValid_members es h.1]
  simp [this]

def ex2 : Entries := [([97], [49]), ([98, 64, 99], [32, 50])]   -- a=1 , b@c=" 2"
theorem ex2_wf : WF ex2 := by
  refine ⟨?_, by decide⟩
  intro e he
  simp only [ex2, List.mem_cons, List.not_mem_nil, or_false] at he
  rcases he with rfl | rfl
  · exact ⟨Or.inl ⟨97, [], rfl, by decide, by simp, by simp⟩, ⟨[], 49, rfl, by simp, by simp, by decide, by decide⟩⟩
  · exact ⟨Or.inr ⟨98, [], 99, [], rfl, by decide, by simp, by simp, by decide, by simp, by simp⟩,
      ⟨[32], 50, rfl, by simp; decide, by simp, by decide, by decide⟩⟩
example : set ex2 [97] [57] = [([97], [57]), ([98, 64, 99], [32, 50])] := by
  rw [set_spec ex2 [97] [57] ((isValidKey_iff _).2 (Or.inl ⟨97, [], rfl, by decide, by simp, by simp⟩))
    ((isValidValue_iff _).2 ⟨[], 57, rfl, by simp, by simp, by decide, by decide⟩)]
  decide
example : fromHeader (toHeader ex2) = ex2 := fromHeader_toHeader ex2 ex2_wf
example : toHeader ex2 = [97, 61, 49, 44, 98, 64, 99, 61, 32, 50] := by decide

theorem kvMembers_eq_filter (sep : UInt8) : ∀ (fuel : Nat) (s : Bytes),
    kvMembers sep fuel s = (kvMembersAll sep fuel s).filter (fun m => !m.isEmpty) := by
  intro fuel
  induction fuel with
  | zero => intro s; simp [kvMembers, kvMembersAll]
  | succ fuel ih =>
    intro s
    cases s with
    | nil => simp [kvMembers, kvMembersAll]
    | cons c t =>
      unfold kvMembers kvMembersAll
      rcases h : takeTok sep (c :: t) with ⟨tok, _ | rest⟩
      · by_cases he : (trim tok).isEmpty <;> simp [he]
      · by_cases he : (trim tok).isEmpty <;> simp [he, ih rest]

/-- with the default option the tokenizer delivers exactly the non-empty members of the option-free enumeration, in order:
    empty members never become entries of a TraceState -/
theorem members_eq_filter (sep : UInt8) (s : Bytes) :
    members sep s = (membersAll sep s).filter (fun m => !m.isEmpty) :=
  kvMembers_eq_filter sep s.length s

end Otel.C14
