import OtelVerif.Lemmas.ReaderMain
/-! # C02 / C03 — the periodic exporting metric reader

Theorems about `Model/ReaderAbs.lean`, for every schedule of the worker, its per-cycle collect thread, any number of
recorders, `ForceFlush` callers and `Shutdown` callers (serialized by `shutdown_m_` where they touch the worker thread, D82);
the export timeout may fire at any moment.  `recorded` counts measurements, `covered` is the largest `Produce` snapshot whose `Export` has returned,
`bh` = `recorded` when a `ForceFlush` call began. -/
namespace Otel.C02Reader
open Otel Otel.Reader

variable {as : List Act} {s : St} (h : run init as = some s)
include h

/-- **one Export at a time** (C03): at most one `exporter.Export` call is in flight, exactly while the collect thread
    is inside it; and a collect thread exists only while the worker waits for / joins it (one per cycle, joined before
    the next cycle starts) -/
theorem export_not_reentrant_reader :
    s.inExport ≤ 1 ∧ (s.inExport = 1 ↔ ∃ p, s.cpc = .exportE p) ∧
    (s.cpc ≠ .none → ∃ n, s.wpc = .waitF n ∨ s.wpc = .joinC n) := by
  rcases WInv_cases (reachable_inv as s h).w with ⟨n, hn, _, _, hc⟩ | ⟨_, hc, hi⟩
  · have hwait : ∃ n, s.wpc = .waitF n ∨ s.wpc = .joinC n := ⟨n, hn⟩
    cases hpc : s.cpc with
    | none => simp only [CInv, hpc] at hc
    | exportE p => simp only [CInv, hpc] at hc; exact ⟨by omega, ⟨fun _ => ⟨p, rfl⟩, fun _ => hc.1⟩, fun _ => hwait⟩
    | _ => simp only [CInv, hpc] at hc; exact ⟨by omega, ⟨fun h1 => by omega, fun ⟨_, h2⟩ => by cases h2⟩, fun _ => hwait⟩
  · exact ⟨by omega, ⟨fun h1 => by omega, fun ⟨p, h2⟩ => by rw [hc] at h2; cases h2⟩, fun hne => absurd hc hne⟩

/-- **no Export after Shutdown has returned** (C02): the ghost count of `Export` calls begun after a `Shutdown` call had
    returned stays zero; by then the worker has exited and been joined -/
theorem reader_no_export_after_shutdown : s.lateExports = 0 ∧ (s.sdReturned = true → s.wpc = .done ∧ s.cpc = .none) := by
  have hI := reachable_inv as s h
  refine ⟨hI.late, fun hr => ?_⟩
  have hd := hI.joinedD (hI.retd hr)
  have hw := hI.w
  unfold WInv at hw; rw [hd] at hw
  exact ⟨hd, hw.1⟩

/-- **ForceFlush complete** (C02, partial): if a reader `ForceFlush` returned true then — unless some collection was
    cancelled by `export_timeout` and skipped its `Export` (D17) — every measurement recorded before the call began is
    covered by an `Export` that has returned; returning true also needs the exporter's own `ForceFlush` to have been
    invoked and to have succeeded (the only path to `ret _ true` goes through it) -/
theorem reader_flush_complete_partial (f bh : Nat) (hf : s.fl f = .ret bh true) (hns : s.skipped = false) : bh ≤ s.covered := by
  have := (reachable_inv as s h).f f
  unfold FInv at this; rw [hf] at this
  rcases this rfl with hc | hc
  · exact hc
  · rw [hns] at hc; cases hc

omit h

/-- the full statement is false of the code when the export timeout fires before the collect thread has looked at the
    cancel flag: the cycle skips `Export`, still publishes the ticket, and `ForceFlush` returns true with nothing
    exported (D17; a slow *collection*, not a slow exporter — outside C02's stated fault model, kept as a witness) -/
def d17 : List Act :=
  [.record, .fStep 0 0 false, .fStep 0 0 false,               -- one measurement; ForceFlush begins, takes ticket 1
   .wStep false, .wStep false, .wStep true,                   -- cycle: ticket 1, spawn, the export timeout fires
   .cStep, .cStep,                                            -- Produce, then the cancel flag is seen: Export skipped
   .wStep false, .wStep false, .wStep false,                  -- join, reload notified, CAS publishes ticket 1
   .fStep 0 0 false, .fStep 0 2 false, .fStep 0 0 true,       -- the caller observes, exporter ForceFlush ok
   .fStep 0 0 false, .fStep 0 1 false]                        -- final load of notified = 1, returns true
theorem reader_flush_complete_witness :
    (run init d17).map (fun s => (s.fl 0, s.covered, s.skipped)) = some (.ret 1 true, 0, true) := by decide

/-- a `ForceFlush` that returns true went through the exporter's own `ForceFlush`, which reported success -/
theorem reader_flush_true_needs_exporter_flush (s s' : St) (f c : Nat) (x : Bool) (bh : Nat)
    (hs : step s (.fStep f c x) = some s') (hnot : ∀ b, s.fl f ≠ .ret b true) (hret : s'.fl f = .ret bh true) :
    ∃ cur seen, s.fl f = .after bh cur true seen := by
  rcases fStep_cases hs with ⟨b, _, rfl⟩ | ⟨v, hn, rfl⟩
  · simp only [Ring.upd_same] at hret; cases hret
  · simp only [Ring.upd_same] at hret
    generalize hpc : s.fl f = pc at hn
    cases hn with
    | ret b cur v => injection hret with hb _; subst hb; exact ⟨cur, some v, rfl⟩
    | _ => cases hret

/-! ## Non-vacuity: a complete flush -/
def demo : List Act :=
  [.record, .fStep 0 0 false, .fStep 0 0 false, .wStep false, .wStep false, .cStep, .cStep, .cStep, .cStep,
   .wStep false, .wStep false, .wStep false, .wStep false,
   .fStep 0 0 false, .fStep 0 2 false, .fStep 0 0 true, .fStep 0 0 false, .fStep 0 1 false]
example : (run init demo).map (fun s => (s.fl 0, s.covered, s.skipped, s.inExport)) = some (.ret 1 true, 1, false, 0) := by decide

end Otel.C02Reader
