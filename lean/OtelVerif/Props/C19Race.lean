import OtelVerif.Lemmas.GetScopeLock
import OtelVerif.Gen.GetScopeLock
/-! # C19, concurrency reading of its last clause — first requests for one scope from several threads

"… and requesting the same name/version/schema/attributes returns the same tracer, meter or logger": theorems about
`Model/GetScopeLock.lean`, for EVERY interleaving of the lock / walk / construct / push_back / unlock / return steps of any
number of threads calling `GetTracer` (`GetMeter`, `GetLogger`) on one provider (no bound on the number of threads, requests
or steps): one inductive invariant (`Otel.GetScopeLock.Inv`, `reachable_inv`) and from it

* the critical sections never overlap (`mutual_exclusion`);
* the provider's list never holds two entries with equal scope keys, nor one object twice (`list_keys_nodup`,
  `list_ids_nodup`);
* every completed request returned an entry of the list, created for the requested key (`returned_in_list_with_requested_key`);
* two requests with equal keys got the same object — whichever threads made them, however their steps were interleaved,
  however much later the second one came (`same_key_same_object`, `same_key_same_object_later`); requests with different
  keys got different objects (`different_keys_different_objects`);
* nothing ever leaves the list: a returned object stays in it in every continuation (`list_only_grows`,
  `returned_stays_in_list`); an object is constructed only by a request whose walk missed, and every constructed object is
  appended (`constructed_eq_listed`).

`split_lock_witness`: the same functions with the walk and the `push_back` under separate lock scopes reach a list with two
entries of one key and two requests for one key holding different objects — the theorems are about the lock discipline.
The step structure the model assumes is re-extracted from the four source files on every run (`gen_getscope_lock_facts`);
real executions of the unmodified files under the deterministic scheduler are replayed on the model
(`Model/GetScopeLock.lean` `astep`, `replay_sound`). -/
namespace Otel.C19Race
open Otel Otel.GetScopeLock
open Otel.Ring (upd upd_same upd_other)

/-- does a thread at this program counter hold the provider's `lock_`? -/
def holds : Pc → Bool
  | .gScan _ => true
  | .gCreate _ => true
  | .gPush _ _ => true
  | .gHave _ _ => true
  | _ => false

theorem holds_lock {s : St} (hI : Inv s) (t : Nat) (ht : holds (s.pc t) = true) : s.lock = some t := by
  have h := hI.2 t
  unfold TInv at h
  generalize s.pc t = p at h ht
  cases p <;> first | exact h | exact h.1 | cases ht

section reachable
variable {as : List Act} {s : St} (h : run init as = some s)
include h

/-- **mutual exclusion** of the walk, the construction and the `push_back` of any two requests -/
theorem mutual_exclusion (t t' : Nat) (ht : holds (s.pc t) = true) (ht' : holds (s.pc t') = true) : t = t' :=
  Lock.holder_unique (holds_lock (reachable_inv as s h) t ht) (holds_lock (reachable_inv as s h) t' ht')

/-- **the list never holds two entries with equal scope keys** -/
theorem list_keys_nodup : (s.list.map (·.key)).Nodup := (reachable_inv as s h).1.keys

/-- nor one object twice -/
theorem list_ids_nodup : (s.list.map (·.id)).Nodup := (reachable_inv as s h).1.ids

/-- **every returned object is in the list, and it is the entry of the requested key** -/
theorem returned_in_list_with_requested_key (r : Ret) (hr : r ∈ s.rets) : r.ent ∈ s.list ∧ r.ent.key = r.key :=
  (reachable_inv as s h).1.rets r hr

/-- **two requests with equal keys returned the same object** (any two completed requests of the whole execution, by any
    threads) -/
theorem same_key_same_object (r1 r2 : Ret) (h1 : r1 ∈ s.rets) (h2 : r2 ∈ s.rets) (hk : r1.key = r2.key) : r1.ent = r2.ent := by
  obtain ⟨m1, k1⟩ := returned_in_list_with_requested_key h r1 h1
  obtain ⟨m2, k2⟩ := returned_in_list_with_requested_key h r2 h2
  exact eq_of_nodup_map (·.key) s.list (list_keys_nodup h) _ _ m1 m2 (by show r1.ent.key = r2.ent.key; rw [k1, k2, hk])

/-- **requests with different keys returned different objects** -/
theorem different_keys_different_objects (r1 r2 : Ret) (h1 : r1 ∈ s.rets) (h2 : r2 ∈ s.rets) (hk : r1.key ≠ r2.key) :
    r1.ent.id ≠ r2.ent.id := by
  obtain ⟨m1, k1⟩ := returned_in_list_with_requested_key h r1 h1
  obtain ⟨m2, k2⟩ := returned_in_list_with_requested_key h r2 h2
  intro hid
  have := eq_of_nodup_map (·.id) s.list (list_ids_nodup h) _ _ m1 m2 hid
  exact hk (by rw [← k1, ← k2, this])

/-- when a request is about to return (it holds the lock, or has just released it) its object is in the list under the
    requested key — a thread parked there cannot be overtaken by a second creation -/
theorem about_to_return_is_listed (t k : Nat) (e : Ent) (hp : s.pc t = .gHave k e ∨ s.pc t = .gOut k e) :
    e ∈ s.list ∧ e.key = k := by
  have ht := (reachable_inv as s h).2 t
  exact hp.elim (fun hp => ((TInv_at hp).mp ht).2) fun hp => (TInv_at hp).mp ht

/-- a request constructs a new object only while the list holds no entry of its key -/
theorem constructs_only_when_absent (t k : Nat) (hp : s.pc t = .gCreate k) : ∀ e, e ∈ s.list → e.key ≠ k :=
  ((TInv_at hp).mp ((reachable_inv as s h).2 t)).2

end reachable

/-- **nothing ever leaves the list** (and the log of returns only grows) -/
theorem list_only_grows {s s' : St} (bs : List Act) (hb : run s bs = some s') :
    (∃ l, s'.list = s.list ++ l) ∧ ∃ l, s'.rets = s.rets ++ l :=
  have ⟨⟨l, hl⟩, ⟨r, hr⟩⟩ := Run.ind run_nil run_cons (P := fun x => s.list <+: x.list ∧ s.rets <+: x.rets)
    (fun _ _ _ hP ha => ⟨hP.1.trans (act_grows ha).1, hP.2.trans (act_grows ha).2⟩)
    bs s s' ⟨List.prefix_refl _, List.prefix_refl _⟩ hb
  ⟨⟨l, hl.symm⟩, ⟨r, hr.symm⟩⟩

/-- **a returned object stays in the list**: in every continuation of the execution, at every later moment -/
theorem returned_stays_in_list {as : List Act} {s : St} (h : run init as = some s) (r : Ret) (hr : r ∈ s.rets)
    (bs : List Act) (s' : St) (hb : run s bs = some s') : r.ent ∈ s'.list ∧ r ∈ s'.rets := by
  obtain ⟨⟨l, hl⟩, ⟨l', hl'⟩⟩ := list_only_grows bs hb
  rw [hl, hl']
  exact ⟨List.mem_append_left _ (returned_in_list_with_requested_key h r hr).1, List.mem_append_left _ hr⟩

/-- **the same key gives the same object at any later time**: a request that completes in any continuation of the execution
    returns the object an earlier request for that key returned -/
theorem same_key_same_object_later {as : List Act} {s : St} (h : run init as = some s) (r : Ret) (hr : r ∈ s.rets)
    (bs : List Act) (s' : St) (hb : run s bs = some s') (r' : Ret) (hr' : r' ∈ s'.rets) (hk : r'.key = r.key) : r'.ent = r.ent :=
  same_key_same_object (run_append as bs init s s' h hb) r' r hr' (returned_stays_in_list h r hr bs s' hb).2 hk

/-- the walk over the list finds an entry exactly when the list holds the requested key -/
theorem walk_finds_iff_present (l : List Ent) (k : Nat) : (lookup l k).isSome = true ↔ ∃ e, e ∈ l ∧ e.key = k := by
  constructor
  · intro h
    cases hl : lookup l k with
    | none => rw [hl] at h; cases h
    | some e => exact ⟨e, lookup_some hl⟩
  · rintro ⟨e, he, hk⟩
    cases hl : lookup l k with
    | none => exact absurd hk (lookup_none hl e he)
    | some e' => rfl

/-- how many objects have been constructed and not yet appended: the threads between their constructor and `push_back` -/
def pending (s : St) (t : Nat) : Nat := match s.pc t with
  | .gPush _ _ => 1
  | _ => 0

/-- the same count as a function of the program counter alone, so that it can be evaluated on `upd s.pc t p'` -/
def unpushed : Pc → Nat
  | .gPush _ _ => 1
  | _ => 0

theorem pending_eq (s : St) (t : Nat) : pending s t = unpushed (s.pc t) := rfl

/-- what the counting invariant adds to `list.length`: the lock holder's `unpushed`.  Mutual exclusion makes that the
    only thread that can stand between its constructor and its `push_back` -/
def unlisted (lock : Option Nat) (pc : Nat → Pc) : Nat :=
  match lock with
  | some t => unpushed (pc t)
  | none => 0

theorem unlisted_upd {lock : Option Nat} {pc : Nat → Pc} {t : Nat} {p' : Pc} (hp : unpushed (pc t) = 0) (hp' : unpushed p' = 0) :
    unlisted lock (upd pc t p') = unlisted lock pc := by
  cases lock with
  | none => rfl
  | some h =>
    show unpushed (upd pc t p' h) = unpushed (pc h)
    by_cases hh : h = t
    · rw [hh, upd_same, hp, hp']
    · rw [upd_other _ _ _ _ hh]

/-- the counting invariant: the objects constructed so far are the listed ones and the unlisted one -/
theorem count_act {s s' : St} {a : Act} (hI : Inv s) (ha : act s a = some s')
    (h0 : s.next = s.list.length + unlisted s.lock s.pc) : s'.next = s'.list.length + unlisted s'.lock s'.pc := by
  cases a with
  | call t k =>
    simp only [act, call] at ha
    split at ha <;> cases ha
    rename_i hp
    rw [unlisted_upd (by rw [hp]; rfl) rfl]; exact h0
  | step t =>
    have hth := hI.2 t
    unfold TInv at hth
    cases step_Step ha with
    | lock hp hl =>
      rw [hl] at h0
      simp only [unlisted, upd_same]; exact h0
    | found hp | missed hp =>
      rw [hp] at hth
      rw [hth, unlisted, hp] at h0
      simp only [hth, unlisted, upd_same]; exact h0
    | create hp =>
      rw [hp] at hth
      rw [hth.1, unlisted, hp] at h0
      simp only [hth.1, unlisted, upd_same]; rw [h0]; rfl
    | push hp =>
      rw [hp] at hth
      rw [hth.1, unlisted, hp] at h0
      simp only [hth.1, unlisted, upd_same, List.length_append, List.length_singleton]; exact h0
    | unlock hp =>
      rw [hp] at hth
      rw [hth.1, unlisted, hp] at h0
      exact h0
    | ret hp => rw [unlisted_upd (by rw [hp]; rfl) rfl]; exact h0

/-- **every constructed object is appended**: the objects constructed so far are the listed ones plus the one (if any) whose
    creator stands between the constructor and the `push_back`; once that thread has moved on, `next = list.length` -/
theorem constructed_eq_listed {as : List Act} {s : St} (h : run init as = some s) :
    (∀ t, pending s t = 0) → s.next = s.list.length := by
  intro hz
  have := (Run.ind run_nil run_cons (P := fun s => Inv s ∧ s.next = s.list.length + unlisted s.lock s.pc)
    (fun _ _ _ hP ha => ⟨inv_act hP.1 ha, count_act hP.1 ha hP.2⟩) as init s ⟨inv_init, rfl⟩ h).2
  rw [this]; unfold unlisted
  cases s.lock with
  | none => rfl
  | some t => show _ + unpushed (s.pc t) = _; rw [← pending_eq, hz t]; rfl

/-- **the refinement check is sound**: a real execution whose events the replay accepts passes only through states of the
    model, so what it returned obeys the property -/
theorem replay_sound (es : List Ev) (s : St) (h : arun init es = some s) :
    (s.list.map (·.key)).Nodup ∧ ∀ r1 r2, r1 ∈ s.rets → r2 ∈ s.rets → r1.key = r2.key → r1.ent = r2.ent := by
  obtain ⟨as, h1⟩ := arun_run es init s h
  exact ⟨list_keys_nodup h1, fun r1 r2 m1 m2 hk => same_key_same_object h1 r1 r2 m1 m2 hk⟩

/-- the facts of the source text the step structure stands on (re-extracted from `tracer_provider.cc`, `meter_provider.cc`,
    `logger_provider.cc`, `meter_context.cc` on every run): each of `GetTracer` / `GetMeter` / `GetLogger` declares ONE lock
    guard on `lock_` at its top level before the first use of the provider's list and nothing releases it before the return;
    under it one loop over the list that returns from inside, then one append; the meter list is `MeterContext::meters_` -/
theorem gen_getscope_lock_facts :
    Gen.getScopeGuardBeforeFirstUse = true ∧ Gen.getScopeOneGuardHeldToReturn = true ∧ Gen.getScopeLookupThenOneAppend = true ∧
    Gen.getScopeMeterListIsContextMeters = true := by decide

/-! ## Non-vacuity -/

/-- two threads make the first request for key 7 at the same time: thread 0 takes the lock, misses and is parked inside the
    constructor; thread 1 cannot get in; it then finds the object thread 0 appended.  A third request asks for key 8. -/
def demo : List Act :=
  [.call 0 7, .call 1 7, .step 0, .step 0, .step 0, .step 0, .step 0, .step 1, .step 1, .step 1, .step 0, .step 1,
   .call 0 8, .step 0, .step 0, .step 0, .step 0, .step 0, .step 0]
example : (run init demo).map (fun s => (s.list, s.rets, s.lock, s.next)) =
    some ([⟨7, 0⟩, ⟨8, 1⟩], [⟨0, 7, ⟨7, 0⟩⟩, ⟨1, 7, ⟨7, 0⟩⟩, ⟨0, 8, ⟨8, 1⟩⟩], none, 2) := rfl
/-- while thread 0 is inside the constructor thread 1 is refused the lock -/
example : run init [.call 0 7, .call 1 7, .step 0, .step 0, .step 0, .step 1] = none := by decide
/-- the hypotheses of `same_key_same_object_later` are reachable: a return for key 7 is logged, and a continuation in which
    another thread asks for key 7 exists -/
example : ∃ as s, run init as = some s ∧ (⟨0, 7, ⟨7, 0⟩⟩ : Ret) ∈ s.rets ∧
    (run s [.call 5 7, .step 5, .step 5, .step 5, .step 5]).map (fun s' => s'.rets) = some [⟨0, 7, ⟨7, 0⟩⟩, ⟨5, 7, ⟨7, 0⟩⟩] :=
  ⟨[.call 0 7, .step 0, .step 0, .step 0, .step 0, .step 0, .step 0], _, rfl, by decide, rfl⟩
/-- the replay accepts the events of such an execution and refuses one in which the implementation creates although the
    model's walk found the key -/
example : (arun init [⟨0, .call 7⟩, ⟨0, .lock⟩, ⟨0, .create 0⟩, ⟨0, .unlock⟩, ⟨0, .ret 0 7⟩, ⟨1, .call 7⟩, ⟨1, .lock⟩, ⟨1, .unlock⟩,
    ⟨1, .ret 0 7⟩]).map (fun s => s.list) = some [⟨7, 0⟩] := rfl
example : (arun init [⟨0, .call 7⟩, ⟨0, .lock⟩, ⟨0, .create 0⟩, ⟨0, .unlock⟩, ⟨0, .ret 0 7⟩, ⟨1, .call 7⟩, ⟨1, .lock⟩,
    ⟨1, .create 1⟩]).isSome = false := by decide
/-- … and one in which the implementation releases the mutex between the walk that missed and the construction -/
example : (arun init [⟨0, .call 7⟩, ⟨0, .lock⟩, ⟨0, .unlock⟩]).isSome = false := by decide

/-- **the lock discipline is what the theorems stand on**: with the walk and the `push_back` under separate lock scopes
    (`stepSplit`: release after a walk that missed, construct unlocked, re-acquire for the `push_back` without walking again)
    two first requests for key 7 leave two entries of key 7 in the list and hold different objects -/
theorem split_lock_witness :
    (runSplit init [.call 0 7, .call 1 7, .step 0, .step 0, .step 1, .step 1, .step 0, .step 1, .step 0, .step 0, .step 0,
      .step 1, .step 1, .step 1]).map (fun s => (s.list, s.rets)) =
    some ([⟨7, 0⟩, ⟨7, 1⟩], [⟨0, 7, ⟨7, 0⟩⟩, ⟨1, 7, ⟨7, 1⟩⟩]) := by decide

end Otel.C19Race
