import OtelVerif.Model.Sampler
import OtelVerif.Lemmas.SamplerThr
import OtelVerif.Lemmas.SamplerFl
/-! # C12 — Sampling is consistent: ratio sampling is a monotone function of the trace id

Property theorems about `Model/Sampler.lean` (which mirrors `sdk/src/trace/samplers/trace_id_ratio.cc`, `parent.cc`,
`always_on.h`, `always_off.h`).  The constants of `CalculateThreshold` come from `Gen/Sampler.lean`, re-extracted from
the source on every run; `gen_constants` (`Lemmas/SamplerThr.lean`) states the values the proofs rely on, so a changed
constant stops the build.

*Doubles.*  A finite `double` is an exact rational; each C++ floating-point operation is the exact result rounded by
`rnd`.  Everything about the ratio sampler is proved **for every rounding `R : Rnd`** — monotone, and the identity
on integers of magnitude below 2^53 (`Lemmas/SamplerThr.lean`) — and then instantiated with the executable binary64
rounding `fl` of the model, for which both facts are proved (`fl_mono`, `fl_int` in `Lemmas/SamplerFl.lean`).

*NaN.*  `thresholdD .nan = none`: the C++ would evaluate `static_cast<uint64_t>(NaN)`, which is undefined behaviour.
Every theorem about a `Dbl` ratio therefore carries the explicit hypothesis that it is not NaN (it is outside the
quantifier of the property: "every pair of ratios in [0,1] … and out-of-range ratios below 0 and above 1"). -/
namespace Otel.C12
open Otel Otel.Sampler

/-! ## The decision, given the threshold -/

/-- the decision of `TraceIdRatioBasedSampler::ShouldSample`: sampled iff the threshold is not 0 and the id's
    threshold does not exceed it -/
theorem ratioShouldSampleWith_iff (rnd : ℚ → ℚ) (thr : ℕ) (id : Bytes) :
    ratioShouldSampleWith rnd thr id = .recordAndSample ↔ thr ≠ 0 ∧ idThresholdWith rnd id ≤ thr := by
  unfold ratioShouldSampleWith
  split_ifs with h0 hle
  · simp [h0]
  · simp [h0, hle]
  · simp [hle]

/-- a larger threshold only adds traces -/
theorem sample_of_le (rnd : ℚ → ℚ) {t₁ t₂ : ℕ} (h : t₁ ≤ t₂) (id : Bytes)
    (hs : ratioShouldSampleWith rnd t₁ id = .recordAndSample) :
    ratioShouldSampleWith rnd t₂ id = .recordAndSample := by
  rw [ratioShouldSampleWith_iff] at hs ⊢
  exact ⟨((Nat.pos_of_ne_zero hs.1).trans_le h).ne', hs.2.trans h⟩

/-! ## The ratio sampler, generically in the rounding -/

section generic
variable (R : Rnd)

/-- **No wrap-around, no out-of-range conversion**: for a ratio strictly inside `(0,1)`, with `product`, `hi_bits`
    and `lo_bits` as in the C++, both converted values are in range of `uint64_t` (`hi_bits < 2^32`), and the
    threshold is the plain integer `2^32 · ⌊product⌋ + ⌊lo_bits⌋`, below 2^64. -/
theorem thresholdWith_no_wrap (r : ℚ) (h0 : 0 < r) (h1 : r < 1) :
    let product := R.fl ((2 ^ 32 - 1) * r)
    let lo := R.fl (2 ^ 32 * (product - ⌊product⌋) + product)
    0 ≤ ⌊product⌋ ∧ ⌊product⌋ < 2 ^ 32 ∧ 0 ≤ ⌊lo⌋ ∧ ⌊lo⌋ < 2 ^ 64 ∧
    (thresholdWith R.fl r : ℤ) = 2 ^ 32 * ⌊product⌋ + ⌊lo⌋ ∧ thresholdWith R.fl r < 2 ^ 64 := by
  dsimp only
  obtain ⟨hp0, hpU⟩ := product_bounds R r h0.le h1.le
  obtain ⟨hnn, hlt, hlnn, hmax⟩ := thr_bounds R _ hp0 hpU
  have he := thresholdWith_eq R r h0 h1
  unfold thr at hmax he
  exact ⟨hnn, by omega, hlnn, by omega, he, by omega⟩

/-- **The threshold never exceeds `UINT64_MAX`.** -/
theorem thresholdWith_le_max (r : ℚ) : thresholdWith R.fl r ≤ 2 ^ 64 - 1 := by
  rcases le_or_gt r 0 with h0 | h0
  · rw [thresholdWith_of_nonpos _ h0]; exact Nat.zero_le _
  rcases le_or_gt 1 r with h1 | h1
  · rw [thresholdWith_of_one_le _ h1]
  · obtain ⟨-, -, -, -, -, hlt⟩ := thresholdWith_no_wrap R r h0 h1
    exact Nat.le_pred_of_lt hlt

/-- **`CalculateThreshold` is monotone in the ratio** (all finite ratios, in and out of `[0,1]`). -/
theorem thresholdWith_mono {r₁ r₂ : ℚ} (h : r₁ ≤ r₂) : thresholdWith R.fl r₁ ≤ thresholdWith R.fl r₂ := by
  rcases le_or_gt r₁ 0 with h10 | h10
  · rw [thresholdWith_of_nonpos _ h10]; exact Nat.zero_le _
  rcases le_or_gt 1 r₂ with h21 | h21
  · rw [thresholdWith_of_one_le _ h21]; exact thresholdWith_le_max R r₁
  have h20 := h10.trans_le h
  have h11 := h.trans_lt h21
  -- inside `(0,1)` both are `thr` of their rounded products, and the products are ordered
  have := thr_mono R _ _ (product_bounds R r₁ h10.le h11.le).1
    (R.mono _ _ (mul_le_mul_of_nonneg_left h (by norm_num))) (product_bounds R r₂ h20.le h21.le).2
  rw [← thresholdWith_eq R r₁ h10 h11, ← thresholdWith_eq R r₂ h20 h21] at this
  exact Int.ofNat_le.1 this

/-- the id side: `double(res) / double(UINT64_MAX)` is monotone in the 64-bit prefix -/
theorem idRatioWith_mono {x₁ x₂ : ℕ} (h : x₁ ≤ x₂) : idRatioWith R.fl x₁ ≤ idRatioWith R.fl x₂ :=
  R.mono _ _ (div_le_div_of_nonneg_right (R.mono _ _ (Nat.cast_le.2 h)) (R.nonneg (Nat.cast_nonneg _)))

/-- **`CalculateThresholdFromBuffer` is monotone in the little-endian value of the first 8 bytes.** -/
theorem idThresholdWith_mono {id₁ id₂ : Bytes} (h : idPrefix id₁ ≤ idPrefix id₂) :
    idThresholdWith R.fl id₁ ≤ idThresholdWith R.fl id₂ :=
  thresholdWith_mono R (idRatioWith_mono R h)

/-- **Raising the ratio only adds traces** (generic rounding). -/
theorem sample_mono_generic {r₁ r₂ : ℚ} (h : r₁ ≤ r₂) (id : Bytes)
    (hs : ratioShouldSampleWith R.fl (thresholdWith R.fl r₁) id = .recordAndSample) :
    ratioShouldSampleWith R.fl (thresholdWith R.fl r₂) id = .recordAndSample :=
  sample_of_le R.fl (thresholdWith_mono R h) id hs

/-- for one sampler, the decision is antitone in the id prefix: the sampled ids are an initial segment (this is what
    makes "the largest sampled prefix" meaningful) -/
theorem sample_antitone_in_id_generic (thr : ℕ) {id₁ id₂ : Bytes} (h : idPrefix id₁ ≤ idPrefix id₂)
    (hs : ratioShouldSampleWith R.fl thr id₂ = .recordAndSample) :
    ratioShouldSampleWith R.fl thr id₁ = .recordAndSample := by
  rw [ratioShouldSampleWith_iff] at hs ⊢
  exact ⟨hs.1, (idThresholdWith_mono R h).trans hs.2⟩

end generic

/-! ## The model of the code: `rnd = fl`

A generic theorem is taken at the instance `flRnd` and its field `flRnd.fl` rewritten to `fl` (`flRnd_fl`); what is
left differs from the statement only by unfolding `threshold`. -/

theorem threshold_mono {r₁ r₂ : ℚ} (h : r₁ ≤ r₂) : threshold r₁ ≤ threshold r₂ := by
  have := thresholdWith_mono flRnd h
  rwa [flRnd_fl] at this

theorem threshold_lt_two_pow_64 (r : ℚ) : threshold r < 2 ^ 64 := by
  have := thresholdWith_le_max flRnd r
  rw [flRnd_fl] at this
  exact Nat.lt_of_le_pred (by norm_num) this

/-- the two `static_cast<uint64_t>`, the shift and the addition of `CalculateThreshold` never leave `[0, 2^64)` -/
theorem threshold_no_wrap (r : ℚ) (h0 : 0 < r) (h1 : r < 1) :
    let product := fl ((2 ^ 32 - 1) * r)
    let lo := fl (2 ^ 32 * (product - ⌊product⌋) + product)
    0 ≤ ⌊product⌋ ∧ ⌊product⌋ < 2 ^ 32 ∧ 0 ≤ ⌊lo⌋ ∧ ⌊lo⌋ < 2 ^ 64 ∧
    (threshold r : ℤ) = 2 ^ 32 * ⌊product⌋ + ⌊lo⌋ ∧ threshold r < 2 ^ 64 := by
  have := thresholdWith_no_wrap flRnd r h0 h1
  rwa [flRnd_fl] at this

/-- order on the non-NaN doubles -/
def Dbl.le : Dbl → Dbl → Prop
  | .nan, _ => False
  | _, .nan => False
  | .ninf, _ => True
  | _, .pinf => True
  | .fin a, .fin b => a ≤ b
  | .fin _, .ninf => False
  | .pinf, .fin _ => False
  | .pinf, .ninf => False

/-- **threshold monotone over all non-NaN doubles**, infinities included (`Dbl.le` is false as soon as one side is NaN) -/
theorem thresholdD_mono {d₁ d₂ : Dbl} (h : Dbl.le d₁ d₂) :
    ∃ t₁ t₂, thresholdD d₁ = some t₁ ∧ thresholdD d₂ = some t₂ ∧ t₁ ≤ t₂ :=
  -- in the ten pairs not listed `Dbl.le d₁ d₂` reduces to `False`, and `match` discards them by that hypothesis
  match d₁, d₂, h with
  | .fin _, .fin _, h => ⟨_, _, rfl, rfl, threshold_mono h⟩
  | .fin a, .pinf, _ =>
    ⟨_, _, rfl, rfl, (Nat.le_pred_of_lt (threshold_lt_two_pow_64 a)).trans_eq gen_constants.1.symm⟩
  | .ninf, .fin _, _ | .ninf, .pinf, _ | .ninf, .ninf, _ => ⟨_, _, rfl, rfl, Nat.zero_le _⟩
  | .pinf, .pinf, _ => ⟨_, _, rfl, rfl, le_rfl⟩

/-- the decision of a ratio sampler, as the property talks about it -/
def sampled (thr : ℕ) (a : Args) : Prop := (shouldSample (.ratio thr) a).decision = .recordAndSample

theorem sampled_iff (thr : ℕ) (a : Args) :
    sampled thr a ↔ ratioShouldSampleWith fl thr a.traceId = .recordAndSample := Iff.rfl

/-- a ratio sampler never answers anything but DROP or RECORD_AND_SAMPLE, with a null trace state -/
theorem ratio_result_shape (thr : ℕ) (a : Args) :
    (shouldSample (.ratio thr) a).traceState = none ∧
    ((shouldSample (.ratio thr) a).decision = .drop ∨ (shouldSample (.ratio thr) a).decision = .recordAndSample) := by
  refine ⟨rfl, ?_⟩
  show ratioShouldSampleWith fl thr a.traceId = _ ∨ ratioShouldSampleWith fl thr a.traceId = _
  unfold ratioShouldSampleWith
  split_ifs <;> simp

/-- **Any trace sampled at a ratio is also sampled at every larger ratio** — for all finite ratios, adjacent doubles,
    subnormals and out-of-range values alike, every trace id and whatever the other arguments are on either side. -/
theorem sample_mono {r₁ r₂ : ℚ} (h : r₁ ≤ r₂) (a a' : Args) (hid : a.traceId = a'.traceId)
    (hs : sampled (threshold r₁) a) : sampled (threshold r₂) a' := by
  rw [sampled_iff] at hs ⊢
  rw [← hid]
  exact sample_of_le fl (threshold_mono h) _ hs

/-- the same over doubles including ±∞ -/
theorem sample_monoD {d₁ d₂ : Dbl} (h : Dbl.le d₁ d₂) (a : Args) :
    ∃ t₁ t₂, thresholdD d₁ = some t₁ ∧ thresholdD d₂ = some t₂ ∧ (sampled t₁ a → sampled t₂ a) := by
  obtain ⟨t₁, t₂, h1, h2, hle⟩ := thresholdD_mono h
  exact ⟨t₁, t₂, h1, h2, sample_of_le fl hle a.traceId⟩

/-- **ratio ≤ 0 samples nothing** (−0.0 and −∞ included: `Dbl.ofBits` maps −0.0 to `fin 0`) -/
theorem ratio_le_zero_never {r : ℚ} (h : r ≤ 0) (a : Args) :
    (shouldSample (.ratio (threshold r)) a).decision = .drop ∧
    (shouldSample (.ratio 0) a).decision = .drop ∧ thresholdD .ninf = some 0 ∧ threshold r = 0 := by
  have ht : threshold r = 0 := thresholdWith_of_nonpos fl h
  rw [ht]
  exact ⟨rfl, rfl, rfl, rfl⟩

/-- **ratio ≥ 1 samples everything** (+∞ included) -/
theorem ratio_ge_one_always {r : ℚ} (h : 1 ≤ r) (a : Args) :
    (shouldSample (.ratio (threshold r)) a).decision = .recordAndSample ∧
    threshold r = 2 ^ 64 - 1 ∧ thresholdD .pinf = some (2 ^ 64 - 1) ∧
    (shouldSample (.ratio (2 ^ 64 - 1)) a).decision = .recordAndSample := by
  have ht : threshold r = 2 ^ 64 - 1 := thresholdWith_of_one_le fl h
  have hs : sampled (2 ^ 64 - 1) a :=
    (sampled_iff _ a).2
      ((ratioShouldSampleWith_iff fl _ _).2 ⟨by norm_num, Nat.le_pred_of_lt (threshold_lt_two_pow_64 _)⟩)
  rw [ht]
  exact ⟨hs, rfl, congrArg some gen_constants.1, hs⟩

/-- **The decision depends only on the trace id (indeed only on its first 8 bytes) and the configured ratio**: the
    parent context, name, kind, attributes and links are irrelevant, and so is the rest of the id. -/
theorem decision_depends_only_on_id_and_ratio (thr : ℕ) (a a' : Args)
    (h : a.traceId.take 8 = a'.traceId.take 8) :
    shouldSample (.ratio thr) a = shouldSample (.ratio thr) a' := by
  obtain ⟨-, -, -, -, hIdBytes, -⟩ := gen_constants
  unfold shouldSample shouldSampleWith ratioShouldSampleWith idThresholdWith idPrefix
  rw [hIdBytes, h]

/-- **All participants in a trace agree**: two samplers built from the same ratio, asked about the same trace id with
    whatever other arguments, give the same result. -/
theorem participants_agree (d : Dbl) (s s' : Sampler.Sampler) (hs : mkRatio d = some s) (hs' : mkRatio d = some s')
    (a a' : Args) (h : a.traceId = a'.traceId) : shouldSample s a = shouldSample s' a' := by
  -- `mkRatio d` is `(thresholdD d).map .ratio`: both samplers are `.ratio t` for the same `t`
  obtain ⟨t, -, rfl⟩ := Option.map_eq_some_iff.1 hs
  cases hs.symm.trans hs'
  exact decision_depends_only_on_id_and_ratio t a a' (by rw [h])

/-- the sampled ids of one sampler are an initial segment in the little-endian value of the first 8 bytes -/
theorem sample_antitone_in_id (thr : ℕ) (a a' : Args) (h : idPrefix a.traceId ≤ idPrefix a'.traceId)
    (hs : sampled thr a') : sampled thr a := by
  rw [sampled_iff, ← flRnd_fl] at hs ⊢
  exact sample_antitone_in_id_generic flRnd thr h hs

/-! ## Parent-based, always-on, always-off (for every rounding: they do not compute) -/

/-- the W3C sampled bit of a flags byte, as the property says it ("the parent's sampled decision") -/
theorem isSampled_iff_bit0 (c : SpanContext) : c.isSampled = true ↔ c.flags &&& 1 = 1 := by
  unfold SpanContext.isSampled
  rw [beq_iff_eq, ← UInt8.toNat_inj, UInt8.toNat_and, UInt8.toNat_one, Nat.and_one_is_mod]

/-- **A span with a valid parent gets exactly the parent's sampled decision and the parent's trace state** — for
    every root sampler, every flags byte, remote or local parent (`remote` does not occur on the right-hand side). -/
theorem parentBased_valid_parent (rnd : ℚ → ℚ) (root : Sampler.Sampler) (a : Args) (hv : a.parent.isValid = true) :
    shouldSampleWith rnd (.parentBased root) a =
      ⟨if a.parent.flags &&& 1 = 1 then .recordAndSample else .drop, some a.parent.traceState⟩ := by
  rw [shouldSampleWith, hv]
  by_cases hb : a.parent.flags &&& 1 = 1
  · rw [if_pos hb, (isSampled_iff_bit0 _).2 hb]; rfl
  · rw [if_neg hb, eq_false_of_ne_true (mt (isSampled_iff_bit0 _).1 hb)]; rfl

/-- … and the root sampler is not even consulted then -/
theorem parentBased_valid_parent_no_consult (root : Sampler.Sampler) (a : Args) (hv : a.parent.isValid = true) :
    consults (.parentBased root) a = 0 := by
  rw [consults, hv]; rfl

/-- **Without a valid parent the root sampler decides** (zero trace id or zero span id, whatever the flags say) -/
theorem parentBased_root_delegates (rnd : ℚ → ℚ) (root : Sampler.Sampler) (a : Args) (hv : a.parent.isValid = false) :
    shouldSampleWith rnd (.parentBased root) a = shouldSampleWith rnd root a := by
  rw [shouldSampleWith, hv]; rfl

theorem parentBased_root_consults (root : Sampler.Sampler) (a : Args) (hv : a.parent.isValid = false) :
    consults (.parentBased root) a = consults root a := by
  rw [consults, hv]; rfl

theorem alwaysOn_constant (rnd : ℚ → ℚ) (a : Args) : (shouldSampleWith rnd .alwaysOn a).decision = .recordAndSample := by
  rfl

theorem alwaysOff_constant (rnd : ℚ → ℚ) (a : Args) : (shouldSampleWith rnd .alwaysOff a).decision = .drop := by
  rfl

/-! ## Spans started through a tracer (`Tracer::StartSpan`): the sampled flag is the sampler's decision -/

/-- the arguments with which `sampleSpanWith` (`Tracer::StartSpan`) asks the sampler: the effective parent, the trace
    id of the new span, and an empty name, kind, attribute and link list -/
abbrev spanArgs (parent : SpanContext) (traceId : Bytes) : Args :=
  { parent, traceId, name := [], kind := 0, attributes := [], links := [] }

/-- a valid parent given in any way but "explicit root" is the parent the sampler is asked about -/
theorem effectiveParent_valid (via : ParentVia) (p : SpanContext) (hr : via ≠ .root) (hv : p.isValid = true) :
    effectiveParent via p = p := by
  cases via
  · exact if_pos hv
  · exact if_pos hv
  · rfl
  · exact absurd rfl hr

/-- an explicit root, or a parent that is not valid, leaves the span without a valid parent -/
theorem effectiveParent_invalid (via : ParentVia) (p : SpanContext) (h : via = .root ∨ p.isValid = false) :
    (effectiveParent via p).isValid = false := by
  have hinv : SpanContext.invalid.isValid = false := by decide
  rcases h with h | h
  · subst h; exact hinv
  · cases via <;> simp [effectiveParent, h, hinv]

/-- **A span with a valid parent, started under a parent-based sampler, gets exactly the parent's sampled decision and
    the parent's trace state** (and joins the parent's trace; the root sampler is not consulted) — however the parent
    is supplied, remote or local, any flags byte. -/
theorem span_parentBased_valid_parent (rnd : ℚ → ℚ) (root : Sampler.Sampler) (via : ParentVia) (p : SpanContext)
    (g : Bytes) (hr : via ≠ .root) (hv : p.isValid = true) :
    let st := sampleSpanWith rnd (.parentBased root) via p g
    st.sampled = decide (p.flags &&& 1 = 1) ∧ st.traceState = p.traceState ∧ st.traceId = p.traceId ∧ st.consulted = 0 := by
  have hres := parentBased_valid_parent rnd root (spanArgs p p.traceId) hv
  have hc := parentBased_valid_parent_no_consult root (spanArgs p p.traceId) hv
  simp only [sampleSpanWith, effectiveParent_valid via p hr hv, hv, if_true, hres, hc]
  refine ⟨?_, trivial, trivial, trivial⟩
  by_cases hb : p.flags &&& 1 = 1
  · rw [if_pos hb, decide_eq_true hb]; rfl
  · rw [if_neg hb, decide_eq_false hb]; rfl

/-- **Without a valid parent the span is the root sampler's**: same flag, same trace state, same trace id, and the
    root sampler is consulted exactly as if it were the tracer's sampler. -/
theorem span_root_delegates (rnd : ℚ → ℚ) (root : Sampler.Sampler) (via : ParentVia) (p : SpanContext) (g : Bytes)
    (h : via = .root ∨ p.isValid = false) :
    let st := sampleSpanWith rnd (.parentBased root) via p g
    let st' := sampleSpanWith rnd root via p g
    st.sampled = st'.sampled ∧ st.recording = st'.recording ∧ st.traceState = st'.traceState ∧
      st.traceId = st'.traceId ∧ st.consulted = st'.consulted := by
  have hi := effectiveParent_invalid via p h
  have hres := parentBased_root_delegates rnd root (spanArgs (effectiveParent via p) g) hi
  have hc := parentBased_root_consults root (spanArgs (effectiveParent via p) g) hi
  simp only [sampleSpanWith, hi, Bool.false_eq_true, if_false, hres, hc]
  exact ⟨trivial, trivial, trivial, trivial, trivial⟩

/-- **All participants in a trace agree, at the level of spans**: under samplers built from the same ratio, two spans of
    the same trace (whatever their parents and the way these were supplied) carry the same sampled flag. -/
theorem span_participants_agree (d : Dbl) (s s' : Sampler.Sampler) (hs : mkRatio d = some s) (hs' : mkRatio d = some s')
    (via via' : ParentVia) (p p' : SpanContext) (g g' : Bytes)
    (h : (sampleSpan s via p g).traceId = (sampleSpan s' via' p' g').traceId) :
    (sampleSpan s via p g).sampled = (sampleSpan s' via' p' g').sampled := by
  have key := participants_agree d s s' hs hs'
    (spanArgs (effectiveParent via p) (sampleSpan s via p g).traceId)
    (spanArgs (effectiveParent via' p') (sampleSpan s' via' p' g').traceId) h
  simp only [sampleSpan, sampleSpanWith, shouldSample] at key ⊢
  rw [key]

theorem span_alwaysOn_sampled (rnd : ℚ → ℚ) (via : ParentVia) (p : SpanContext) (g : Bytes) :
    (sampleSpanWith rnd .alwaysOn via p g).sampled = true := by
  rfl

theorem span_alwaysOff_not_sampled (rnd : ℚ → ℚ) (via : ParentVia) (p : SpanContext) (g : Bytes) :
    (sampleSpanWith rnd .alwaysOff via p g).sampled = false ∧ (sampleSpanWith rnd .alwaysOff via p g).recording = false :=
  ⟨by rfl, by rfl⟩

/-! ## The hypotheses are satisfiable; concrete values through the executable model -/

/-- an unsampled remote parent given as the active span under `ParentBased(AlwaysOn)`: not sampled, parent's trace -/
example : (sampleSpan (.parentBased .alwaysOn) .active
    ⟨[1,0,0,0,0,0,0,0,0,0,0,0,0,0,0,0], [1,0,0,0,0,0,0,0], 0xfe, true, [([107], [118])]⟩ (List.replicate 16 9)).sampled = false := by
  decide +kernel
/-- … the same span context under an explicit root: the root sampler decides, on the generated trace id -/
example : (sampleSpan (.parentBased .alwaysOn) .root
    ⟨[1,0,0,0,0,0,0,0,0,0,0,0,0,0,0,0], [1,0,0,0,0,0,0,0], 0xfe, true, [([107], [118])]⟩ (List.replicate 16 9)).traceId
      = List.replicate 16 9 := by
  decide +kernel

/-- 0.5 as an exact rational, and its threshold 2^63 − 1 -/
example : Dbl.ofBits 0x3fe0000000000000 = .fin (1 / 2) := by decide +kernel
example : threshold (1 / 2) = 0x7fffffffffffffff := by decide +kernel
/-- −0.0 is the rational 0 (so it is covered by `ratio_le_zero_never`); the smallest subnormal has threshold 0;
    the largest double below 1 has threshold 2^64 − 2^11 − 1 -/
example : Dbl.ofBits 0x8000000000000000 = .fin 0 := by decide +kernel
example : thresholdD (Dbl.ofBits 1) = some 0 := by decide +kernel
example : thresholdD (Dbl.ofBits 0x3fefffffffffffff) = some 0xfffffffffffff7ff := by decide +kernel
example : Dbl.le (.fin (1 - 1 / 2 ^ 53)) (.fin 1) := by show (1 - 1 / 2 ^ 53 : ℚ) ≤ 1; norm_num
/-- a valid sampled remote parent under `ParentBased(AlwaysOff)`: sampled, parent's trace state -/
example : shouldSample (.parentBased .alwaysOff)
    ⟨⟨[1,0,0,0,0,0,0,0,0,0,0,0,0,0,0,0], [1,0,0,0,0,0,0,0], 0xff, true, [([107], [118])]⟩, [], [], 0, [], []⟩
    = ⟨.recordAndSample, some [([107], [118])]⟩ := by decide +kernel
/-- an id sampled at 1/2 (prefix 0) and one that is not (prefix 2^64-1) -/
example : sampled (threshold (1 / 2)) ⟨SpanContext.invalid, List.replicate 16 0, [], 0, [], []⟩ := by
  unfold sampled; decide +kernel
example : ¬ sampled (threshold (1 / 2)) ⟨SpanContext.invalid, List.replicate 16 255, [], 0, [], []⟩ := by
  unfold sampled; decide +kernel

end Otel.C12
