import OtelVerif.Model.TabNaming
import OtelVerif.Gen.TabNaming
import OtelVerif.Lemmas.Tab
import OtelVerif.Props.C19
/-! # The model equals the code's graph: `InstrumentMetaDataValidator::ValidateName` / `ValidateUnit` (the `std::regex` variants)

`C19.validName_iff` / `validUnit_iff` say that the model's validators decide the grammar of the property text.  On one and two
bytes that grammar is a test on each byte, so the tables are swept against those tests and the regex matcher is not run. -/
namespace Otel.Tab
open Otel C19

theorem nameSyntax_single (a : UInt8) : NameSyntax [a] ↔ IsLetter a := by
  constructor
  · rintro ⟨c, rest, h, hc, -⟩
    exact (List.cons.inj h).1 ▸ hc
  · exact fun ha => ⟨a, [], rfl, ha, Nat.zero_le _, nofun⟩

theorem nameSyntax_pair (a b : UInt8) : NameSyntax [a, b] ↔ IsLetter a ∧ IsNameChar b := by
  constructor
  · rintro ⟨c, rest, h, hc, -, hr⟩
    obtain ⟨rfl, rfl⟩ := List.cons.inj h
    exact ⟨hc, hr b (List.mem_singleton.2 rfl)⟩
  · rintro ⟨ha, hb⟩
    exact ⟨a, [b], rfl, ha, Nat.le_add_left 1 253, fun x hx => List.mem_singleton.1 hx ▸ hb⟩

theorem validName_eq_decide (s : Bytes) {p : Prop} [Decidable p] (h : NameSyntax s ↔ p) : Naming.validName s = decide p := by
  rw [Bool.eq_iff_iff, validName_iff, h, decide_eq_true_iff]

theorem tab_nameValid1 : ∀ b : UInt8, TabModel.nameValid1 b = Gen.Tab.nameValid1 b := by
  simp only [TabModel.nameValid1, validName_eq_decide _ (nameSyntax_single _)]; exact forall_byte _ (by decide +kernel)
theorem tab_nameValidA : ∀ b : UInt8, TabModel.nameValidA b = Gen.Tab.nameValidA b := by
  simp only [TabModel.nameValidA, validName_eq_decide _ (nameSyntax_pair _ _)]; exact forall_byte _ (by decide +kernel)
theorem tab_nameValidB : ∀ b : UInt8, TabModel.nameValidB b = Gen.Tab.nameValidB b := by
  simp only [TabModel.nameValidB, validName_eq_decide _ (nameSyntax_pair _ _)]; exact forall_byte _ (by decide +kernel)

/-- `UnitSyntax` is a bounded test on every byte, decidable as it stands -/
theorem validUnit_eq_decide (s : Bytes) :
    Naming.validUnit s = decide (s.length ≤ 63 ∧ ∀ c ∈ s, (1 : UInt8) ≤ c ∧ c ≤ 127) := by
  rw [Bool.eq_iff_iff, validUnit_iff, decide_eq_true_iff]; rfl

theorem tab_unitValid1 : ∀ b : UInt8, TabModel.unitValid1 b = Gen.Tab.unitValid1 b := by
  simp only [TabModel.unitValid1, validUnit_eq_decide]; exact forall_byte _ (by decide +kernel)
theorem tab_unitValidA : ∀ b : UInt8, TabModel.unitValidA b = Gen.Tab.unitValidA b := by
  simp only [TabModel.unitValidA, validUnit_eq_decide]; exact forall_byte _ (by decide +kernel)

end Otel.Tab
