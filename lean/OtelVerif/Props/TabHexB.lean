import OtelVerif.Props.TabHex
import OtelVerif.Props.C09
/-! # The model equals the code's graph (`Gen/TabHex.lean`), second part: `HexToBinary` on two characters with one arbitrary
    byte, and the flags field of `traceparent` in both directions.  See `Props/TabHex.lean`. -/
namespace Otel.Tab
open Otel

/-- every byte in either position beside the partners `5` and the non-digit `G` (4 x 256) -/
theorem tab_hexToBinary2_cross : ∀ b : UInt8, ∀ r ∈ [(53 : UInt8), 71],
    TabModel.hexToBinary2 r b = Gen.Tab.hexToBinary2 r b ∧ TabModel.hexToBinary2 b r = Gen.Tab.hexToBinary2 b r := by
  have h : ∀ b : UInt8, ∀ r ∈ [(53 : UInt8), 71],
      (Gen.Tab.hexToInt r <<< 4) ||| Gen.Tab.hexToInt b = Gen.Tab.hexToBinary2 r b ∧
      (Gen.Tab.hexToInt b <<< 4) ||| Gen.Tab.hexToInt r = Gen.Tab.hexToBinary2 b r := forall_byte _ (by decide +kernel)
  intro b r hr
  rw [hexToBinary2_eq, hexToBinary2_eq, tab_hexToInt, tab_hexToInt]
  exact h b r hr

/-- the span context every tabulated header carries, with flags `f` -/
def idsWith (f : UInt8) : TraceContext.SpanCtx :=
  { traceId := TabModel.seqFrom 1 16, spanId := TabModel.seqFrom 17 8, flags := f, remote := false, traceState := [] }

theorem idsWith_valid (f : UInt8) : (idsWith f).isValid = true := by
  simp only [TraceContext.SpanCtx.isValid, idsWith]; decide +kernel

theorem lowerHex2_eq : ∀ v : UInt8, TabModel.lowerHex2 v = flagsToHex v := forall_byte _ (by decide +kernel)

/-- The tabulated header `00-…-…-XY` is what `inject` writes for `idsWith v`, so the round trip `C09.extract_inject`
    gives the flags installed, and the sweep below does not run `extract`. -/
theorem tpFlagsByte_eq (v : UInt8) : TabModel.tpFlagsByte v = v.toNat := by
  obtain ⟨tp, tso, hi, he⟩ := C09.extract_inject (idsWith v) (idsWith_valid v)
    (show (TabModel.seqFrom 1 16).length = 16 by decide +kernel) (show (TabModel.seqFrom 17 8).length = 8 by decide +kernel)
  simp only [TraceContext.inject, idsWith_valid, Bool.not_true, Bool.false_eq_true, if_false, Option.some.injEq,
    Prod.mk.injEq] at hi
  obtain ⟨rfl, rfl⟩ := hi
  have ht : TabModel.tidHex = traceIdToHex (TabModel.seqFrom 1 16) := by decide +kernel
  have hs : TabModel.sidHex = spanIdToHex (TabModel.seqFrom 17 8) := by decide +kernel
  have he' : TraceContext.extract ([48, 48, 45] ++ traceIdToHex (TabModel.seqFrom 1 16) ++ [45] ++
      spanIdToHex (TabModel.seqFrom 17 8) ++ [45] ++ flagsToHex v) [] = some { idsWith v with remote := true } := he
  rw [TabModel.tpFlagsByte, ht, hs, lowerHex2_eq, he']; rfl

/-- the last two characters of the injected header are `ToLowerBase16` of the flags -/
theorem tpInjectFlags_eq (f : UInt8) : TabModel.tpInjectFlags f = flagsToHex f := by
  have h : ∀ l r : Bytes, (l ++ r).drop ((l ++ r).length - r.length) = r := by simp
  show (match TraceContext.inject (idsWith f) with | some (tp, _) => tp.drop (tp.length - 2) | none => []) = _
  simp only [TraceContext.inject, idsWith_valid, Bool.not_true, Bool.false_eq_true, if_false]
  exact h _ (flagsToHex f)

/-- extracting `00-…-…-XY`, `XY` the lower-case hex of the byte, installs exactly that flags byte -/
theorem tab_tpFlagsByte : ∀ b : UInt8, TabModel.tpFlagsByte b = Gen.Tab.tpFlagsByte b := by
  simp only [tpFlagsByte_eq]; exact forall_byte _ (by decide +kernel)
theorem tab_tpInjectFlags : ∀ b : UInt8, TabModel.tpInjectFlags b = Gen.Tab.tpInjectFlags b := by
  have h : Gen.Tab.tpInjectFlagsTab = Gen.Tab.flagsLowerTab := by decide +kernel
  intro b; rw [tpInjectFlags_eq, Gen.Tab.tpInjectFlags, h]; exact tab_flagsLower b

end Otel.Tab
