import OtelVerif.Model.Nostd
/-! # C20 — nostd vocabulary types behave like the std types they stand in for

Property theorems about `Model/Nostd.lean`.  The std behaviour each clause names is written here as a
declarative spec (lexicographic order on unsigned bytes, least index, slice, ownership invariants, tagged sum)
and the model — which the harness ties to the nostd code *and* to the std types in lock-step — is proved to meet it.

* comparisons and ordering: `compare_eq_lexSign`, `compare_cases` (the sign says which of `Lex a b`, `a = b`, `Lex b a`
  holds), hence `compare_lt_iff_lex`, `compare_eq_zero_iff`, `compare_antisymm`, `compare_total`; `lex_trans`,
  `compare_trans`, `eq_iff`, `lt_iff_lex`, `gt_iff_lex`
* find/substr incl. the out-of-range failure: `find_spec`, `find_none_iff`, `substr_spec`, `substr_fails_iff`,
  `compare3_fails_iff`
* hashing consistent with equality: `hash_respects_eq`
* element access and subspans: `slice_spec`, `span_get_in_bounds`, `span_get_out_of_bounds`, `fixedSpan_terminates_iff`
* ownership transfer with exactly one destruction per managed object, for EVERY operation sequence (one invariant,
  `Inv`, over "somebody owns the object", kept by both machines): `sh_inv_run`, `sh_no_use_after_destroy`,
  `sh_never_destroyed_twice`, `sh_each_object_destroyed_exactly_once`, `sh_self_assign_keeps`; `un_inv_run`, `un_no_use_after_destroy`, `un_never_destroyed_twice`,
  `un_each_object_destroyed_exactly_once`, `un_unique_owner`
* alternative selection and visitation: `variant_get_holds`, `variant_get_some_iff`, `variant_visit_active`;
  callable reference: `function_ref_applies` -/
namespace Otel.C20
open Otel Otel.Nostd

/-- strict lexicographic order on strings of unsigned bytes (what `std::string_view`'s `<` is) -/
inductive Lex : Bytes → Bytes → Prop
  | nil (b : UInt8) (bs : Bytes) : Lex [] (b :: bs)
  | head {a b : UInt8} (as bs : Bytes) : a < b → Lex (a :: as) (b :: bs)
  | tail (a : UInt8) {as bs : Bytes} : Lex as bs → Lex (a :: as) (a :: bs)

/-- the sign `std::string_view::compare` reports: three-way lexicographic comparison -/
def lexSign : Bytes → Bytes → Int
  | [], [] => 0
  | [], _ :: _ => -1
  | _ :: _, [] => 1
  | a :: as, b :: bs => if a < b then -1 else if b < a then 1 else lexSign as bs

theorem compare_cons_cons (a b : UInt8) (as bs : Bytes) :
    Nostd.compare (a :: as) (b :: bs) = if a < b then -1 else if b < a then 1 else Nostd.compare as bs := by
  unfold Nostd.compare
  have hmin : min (a :: as).length (b :: bs).length = min as.length bs.length + 1 := by
    simp only [List.length_cons]; omega
  simp only [hmin, List.take_succ_cons, memcmp]
  by_cases h1 : a < b
  · simp [h1]
  · by_cases h2 : b < a
    · simp [h1, h2]
    · simp only [h1, h2, if_false, List.length_cons]
      simp only [Nat.add_right_cancel_iff, Nat.add_lt_add_iff_right]

/-- **`compare` is the three-way lexicographic comparison on unsigned bytes** -/
theorem compare_eq_lexSign : ∀ a b : Bytes, Nostd.compare a b = lexSign a b := by
  intro a
  induction a with
  | nil => intro b; cases b <;> rfl
  | cons a as ih =>
    intro b
    cases b with
    | nil => rfl
    | cons b bs => rw [compare_cons_cons, lexSign, ih bs]

theorem lex_irrefl : ∀ a : Bytes, ¬ Lex a a := by
  intro a h
  induction a with
  | nil => cases h
  | cons _ as ih =>
    cases h with
    | head _ _ h => exact UInt8.lt_irrefl _ h
    | tail _ h => exact ih h

theorem lexSign_cases : ∀ a b : Bytes,
    (Lex a b ∧ lexSign a b = -1 ∧ lexSign b a = 1) ∨ (a = b ∧ lexSign a b = 0) ∨ (Lex b a ∧ lexSign a b = 1 ∧ lexSign b a = -1) := by
  intro a
  induction a with
  | nil =>
    intro b
    cases b with
    | nil => exact .inr (.inl ⟨rfl, rfl⟩)
    | cons b bs => exact .inl ⟨.nil b bs, rfl, rfl⟩
  | cons a as ih =>
    intro b
    cases b with
    | nil => exact .inr (.inr ⟨.nil a as, rfl, rfl⟩)
    | cons b bs =>
      simp only [lexSign]
      by_cases h1 : a < b
      · exact .inl ⟨.head as bs h1, if_pos h1, by rw [if_neg (UInt8.lt_asymm h1), if_pos h1]⟩
      by_cases h2 : b < a
      · exact .inr (.inr ⟨.head bs as h2, by rw [if_neg h1, if_pos h2], if_pos h2⟩)
      obtain rfl : a = b := UInt8.le_antisymm (UInt8.not_lt.mp h2) (UInt8.not_lt.mp h1)
      simp only [if_neg h1]
      rcases ih bs with ⟨l, h⟩ | ⟨rfl, h⟩ | ⟨l, h⟩
      · exact .inl ⟨.tail a l, h⟩
      · exact .inr (.inl ⟨rfl, h⟩)
      · exact .inr (.inr ⟨.tail a l, h⟩)

theorem lex_trans : ∀ {a b c : Bytes}, Lex a b → Lex b c → Lex a c := by
  intro a b c h1 h2
  induction h1 generalizing c with
  | nil b bs => cases h2 <;> exact .nil _ _
  | head as bs hab =>
    cases h2 with
    | head _ cs hbc => exact .head _ _ (UInt8.lt_trans hab hbc)
    | tail _ _ => exact .head _ _ hab
  | tail _ hab ih =>
    cases h2 with
    | head _ cs hbc => exact .head _ _ hbc
    | tail _ hbc => exact .tail _ (ih hbc)

theorem compare_cases (a b : Bytes) :
    (Lex a b ∧ Nostd.compare a b = -1 ∧ Nostd.compare b a = 1) ∨ (a = b ∧ Nostd.compare a b = 0) ∨
    (Lex b a ∧ Nostd.compare a b = 1 ∧ Nostd.compare b a = -1) := by
  rw [compare_eq_lexSign, compare_eq_lexSign]; exact lexSign_cases a b

theorem compare_lt_iff_lex (a b : Bytes) : Nostd.compare a b < 0 ↔ Lex a b := by
  rcases compare_cases a b with ⟨l, h, _⟩ | ⟨rfl, h⟩ | ⟨l, h, _⟩
  · exact ⟨fun _ => l, fun _ => by omega⟩
  · exact ⟨fun _ => by omega, fun l => absurd l (lex_irrefl a)⟩
  · exact ⟨fun _ => by omega, fun l' => absurd (lex_trans l l') (lex_irrefl b)⟩

theorem compare_eq_zero_iff (a b : Bytes) : Nostd.compare a b = 0 ↔ a = b := by
  rcases compare_cases a b with ⟨l, h, _⟩ | ⟨rfl, h⟩ | ⟨l, h, _⟩
  · exact ⟨fun _ => by omega, fun e => absurd (e ▸ l) (lex_irrefl b)⟩
  · exact ⟨fun _ => rfl, fun _ => h⟩
  · exact ⟨fun _ => by omega, fun e => absurd (e ▸ l) (lex_irrefl a)⟩

theorem compare_antisymm (a b : Bytes) : Nostd.compare b a = - Nostd.compare a b := by
  rcases compare_cases a b with ⟨_, h, h'⟩ | ⟨rfl, h⟩ | ⟨_, h, h'⟩ <;> omega

theorem compare_gt_iff_lex (a b : Bytes) : Nostd.compare a b > 0 ↔ Lex b a := by
  rw [← compare_lt_iff_lex b a, compare_antisymm a b]
  omega

theorem compare_total (a b : Bytes) : Lex a b ∨ a = b ∨ Lex b a :=
  (compare_cases a b).imp (·.1) (·.imp (·.1) (·.1))

theorem compare_le_iff (a b : Bytes) : Nostd.compare a b ≤ 0 ↔ Lex a b ∨ a = b := by
  rw [← compare_lt_iff_lex, ← compare_eq_zero_iff a b]; omega

theorem compare_trans (a b c : Bytes) (h1 : Nostd.compare a b ≤ 0) (h2 : Nostd.compare b c ≤ 0) : Nostd.compare a c ≤ 0 := by
  rw [compare_le_iff] at *
  rcases h1 with h1 | rfl
  · rcases h2 with h2 | rfl
    · exact .inl (lex_trans h1 h2)
    · exact .inl h1
  · exact h2

theorem eq_iff (a b : Bytes) : Nostd.eq a b = true ↔ a = b := by
  rw [Nostd.eq, Bool.and_eq_true, beq_iff_eq, beq_iff_eq]
  exact ⟨fun h => h.2, fun h => ⟨congrArg _ h, h⟩⟩

theorem lt_iff_lex (a b : Bytes) : lt a b = true ↔ Lex a b := by
  rw [lt, decide_eq_true_iff]; exact compare_lt_iff_lex a b

theorem gt_iff_lex (a b : Bytes) : gt a b = true ↔ Lex b a := by
  rw [gt, decide_eq_true_iff]; exact compare_gt_iff_lex a b

example : Nostd.compare [0x80] [0x7f] = 1 := by decide      -- bytes compare as unsigned
example : Nostd.compare [97, 0] [97] = 1 := by decide        -- an embedded NUL counts
example : Lex [97] [97, 0] := Lex.tail 97 (Lex.nil 0 [])

theorem findFirst_some (ch : UInt8) : ∀ {l : Bytes} {i : Nat}, findFirst ch l = some i →
    l[i]? = some ch ∧ ∀ j, j < i → l[j]? ≠ some ch := by
  intro l
  induction l with
  | nil => intro i h; cases h
  | cons c t ih =>
    intro i h
    rw [findFirst] at h
    split at h
    · next hc => cases h; exact ⟨congrArg some hc, fun _ hj => absurd hj (Nat.not_lt_zero _)⟩
    · next hc =>
      obtain ⟨n, hn, rfl⟩ := Option.map_eq_some_iff.mp h
      obtain ⟨h1, h2⟩ := ih hn
      refine ⟨h1, fun j hj => ?_⟩
      cases j with
      | zero => exact fun e => hc (Option.some.inj e)
      | succ m => exact h2 m (Nat.lt_of_succ_lt_succ hj)

theorem findFirst_none (ch : UInt8) : ∀ {l : Bytes}, findFirst ch l = none → ∀ j : Nat, l[j]? ≠ some ch := by
  intro l
  induction l with
  | nil => exact fun _ _ => nofun
  | cons c t ih =>
    intro h j
    rw [findFirst] at h
    split at h
    · cases h
    · next hc =>
      cases j with
      | zero => exact fun e => hc (Option.some.inj e)
      | succ m => exact ih (Option.map_eq_none_iff.mp h) m

theorem find_some {a : Bytes} {ch : UInt8} {pos i : Nat} (h : find a ch pos = some i) :
    pos ≤ i ∧ a[i]? = some ch ∧ ∀ j, pos ≤ j → j < i → a[j]? ≠ some ch := by
  rw [find, Option.ite_none_right_eq_some, Option.map_eq_some_iff] at h
  obtain ⟨_, k, hk, rfl⟩ := h
  obtain ⟨h1, h2⟩ := findFirst_some ch hk
  rw [List.getElem?_drop] at h1
  refine ⟨Nat.le_add_left _ _, Nat.add_comm pos k ▸ h1, fun j hj hlt => ?_⟩
  have := h2 (j - pos) (by omega)
  rwa [List.getElem?_drop, Nat.add_sub_cancel' hj] at this

theorem find_none {a : Bytes} {ch : UInt8} {pos : Nat} (h : find a ch pos = none) :
    ∀ j, pos ≤ j → a[j]? ≠ some ch := by
  intro j hj
  rw [find] at h
  split at h
  · have := findFirst_none ch (Option.map_eq_none_iff.mp h) (j - pos)
    rwa [List.getElem?_drop, Nat.add_sub_cancel' hj] at this
  · rw [List.getElem?_eq_none (by omega)]; nofun

/-- **`find(ch, pos)` returns the least index `>= pos` holding `ch`** -/
theorem find_spec (a : Bytes) (ch : UInt8) (pos i : Nat) :
    find a ch pos = some i ↔ pos ≤ i ∧ a[i]? = some ch ∧ ∀ j, pos ≤ j → j < i → a[j]? ≠ some ch := by
  refine ⟨find_some, fun ⟨h1, h2, h3⟩ => ?_⟩
  cases hf : find a ch pos with
  | none => exact absurd h2 (find_none hf i h1)
  | some i' =>
    -- two least indices coincide
    obtain ⟨h1', h2', h3'⟩ := find_some hf
    rcases Nat.lt_trichotomy i i' with hlt | rfl | hgt
    · exact absurd h2 (h3' i h1 hlt)
    · rfl
    · exact absurd h2' (h3 i' h1' hgt)

/-- … and `npos` exactly when there is none -/
theorem find_none_iff (a : Bytes) (ch : UInt8) (pos : Nat) :
    find a ch pos = none ↔ ∀ j, pos ≤ j → a[j]? ≠ some ch := by
  refine ⟨find_none, fun h => ?_⟩
  cases hf : find a ch pos with
  | none => rfl
  | some i => exact absurd (find_some hf).2.1 (h i (find_some hf).1)

theorem slice_spec (base : Bytes) (off cnt : Nat) (s : Bytes) (h : slice base off cnt = some s) :
    off + cnt ≤ base.length ∧ s.length = cnt ∧ ∀ i, i < cnt → s[i]? = base[off + i]? := by
  rw [slice, Option.ite_none_right_eq_some, Option.some.injEq] at h
  obtain ⟨hle, rfl⟩ := h
  refine ⟨hle, ?_, fun i hi => ?_⟩
  · rw [List.length_take, List.length_drop]; omega
  · rw [List.getElem?_take_of_lt hi, List.getElem?_drop]

/-- `substr(pos, n)` fails (throws `std::out_of_range`) exactly when `pos > size()` -/
theorem substr_fails_iff (a : Bytes) (pos n : Nat) : substr a pos n = none ↔ pos > a.length := by
  rw [substr]; split <;> simp [*]

/-- otherwise it is the span `[pos, pos + min(n, size() - pos))` -/
theorem substr_eq_slice {a : Bytes} {pos : Nat} (h : pos ≤ a.length) (n : Nat) :
    substr a pos n = slice a pos (min n (a.length - pos)) := by
  rw [substr, slice, if_neg (Nat.not_lt.mpr h), if_pos (by omega)]

theorem substr_spec (a : Bytes) (pos n : Nat) (r : Bytes) (h : substr a pos n = some r) :
    r.length = min n (a.length - pos) ∧ ∀ i, i < r.length → r[i]? = a[pos + i]? := by
  have hp : pos ≤ a.length := Nat.le_of_not_lt fun hp => by rw [(substr_fails_iff a pos n).mpr hp] at h; cases h
  rw [substr_eq_slice hp] at h
  obtain ⟨_, hl, he⟩ := slice_spec _ _ _ _ h
  exact ⟨hl, fun i hi => he i (hl ▸ hi)⟩

theorem compare3_fails_iff (a b : Bytes) (pos n : Nat) : compare3 a pos n b = none ↔ pos > a.length := by
  rw [compare3, Option.map_eq_none_iff, substr_fails_iff]

example : substr [1, 2, 3] 3 5 = some [] := by decide
example : substr [1, 2, 3] 4 0 = none := by decide
example : find [1, 2, 3, 2] 2 2 = some 3 := by decide

/-- whatever function of the bytes the hash is, equal strings hash equal -/
theorem hash_respects_eq {β : Type} (h : Bytes → β) (a b : Bytes) (e : Nostd.eq a b = true) : h a = h b := by
  rw [(eq_iff a b).mp e]

theorem span_get_in_bounds (base : Bytes) (off cnt i : Nat) (s : Bytes) (h : slice base off cnt = some s) (hi : i < cnt) :
    spanGet s i = base[off + i]? ∧ (spanGet s i).isSome = true := by
  obtain ⟨h1, h2, h3⟩ := slice_spec base off cnt s h
  exact ⟨h3 i hi, by rw [spanGet, List.getElem?_eq_getElem (h2 ▸ hi)]; rfl⟩

theorem span_get_out_of_bounds (base : Bytes) (off cnt i : Nat) (s : Bytes) (h : slice base off cnt = some s) (hi : cnt ≤ i) :
    spanGet s i = none :=
  List.getElem?_eq_none ((slice_spec base off cnt s h).2.1 ▸ hi)

/-- a static extent that differs from the count terminates; otherwise the span is the slice -/
theorem fixedSpan_terminates_iff (base : Bytes) (n off cnt : Nat) (s : Bytes) (h : slice base off cnt = some s) :
    (fixedSpan base n off cnt = some .terminate ↔ cnt ≠ n) ∧ (cnt = n → fixedSpan base n off cnt = some (.elems s)) := by
  rw [fixedSpan, h]
  by_cases e : cnt = n <;> simp [e]

example : slice [1, 2, 3, 4] 1 2 = some [2, 3] := by decide

/-- `get<I>` succeeds exactly for the active alternative, and then yields the stored value -/
theorem variant_get_some_iff (v : Var) (i : Nat) (x : Var) : v.get i = some x ↔ v.index = i ∧ x = v := by
  rw [Var.get, Option.ite_none_right_eq_some, Option.some.injEq, eq_comm (a := v)]

theorem variant_get_holds (v : Var) (i : Nat) : (v.get i).isSome = v.holds i ∧ (v.holds i = true ↔ v.index = i) := by
  unfold Var.get Var.holds
  by_cases h : v.index = i <;> simp [h]

/-- `visit` calls the visitor with the payload of the active alternative -/
theorem variant_visit_active {β : Type} (fm : β) (fb : Bool → β) (fi : Int → β) (fs : Bytes → β) :
    Var.visit fm fb fi fs .mono = fm ∧ (∀ x, Var.visit fm fb fi fs (.b x) = fb x) ∧
    (∀ x, Var.visit fm fb fi fs (.i x) = fi x) ∧ (∀ x, Var.visit fm fb fi fs (.s x) = fs x) :=
  ⟨rfl, fun _ => rfl, fun _ => rfl, fun _ => rfl⟩

theorem function_ref_applies {α β : Type} (f : α → β) (x : α) : callRef f x = f x := rfl

theorem upd_self {α : Type} (f : Nat → α) (i : Nat) (v : α) : upd f i v i = v := if_pos rfl
theorem upd_ne {α : Type} (f : Nat → α) {i j : Nat} (v : α) (h : j ≠ i) : upd f i v j = f j := if_neg h

/-- the transposition of `x` and `y` (handle slots, or holders of a unique_ptr program) -/
def swapH {ι : Type} [DecidableEq ι] (x y z : ι) : ι := if z = x then y else if z = y then x else z

section
variable {ι α : Type} [DecidableEq ι]

theorem swapH_invol (x y z : ι) : swapH x y (swapH x y z) = z := by
  unfold swapH
  by_cases h1 : z = x
  · by_cases h2 : y = x <;> simp [h1, h2]
  · by_cases h2 : z = y <;> simp [h1, h2]

/-- a table after `swap(x, y)`, as `upd (upd f x (f y)) y (f x)` and `setOwn (setOwn f x (f y)) y (f x)` unfold to it:
    every index reads what its partner held -/
theorem swap_apply (f : ι → α) (x y z : ι) : (if z = y then f x else if z = x then f y else f z) = f (swapH x y z) := by
  unfold swapH
  by_cases c1 : z = x
  · by_cases c2 : z = y
    · rw [if_pos c2, if_pos c1, ← c1, c2]
    · rw [if_neg c2, if_pos c1, if_pos c1]
  · by_cases c2 : z = y
    · rw [if_pos c2, if_neg c1, if_pos c2]
    · rw [if_neg c2, if_neg c1, if_neg c1, if_neg c2]

end

/-- the ownership invariant of both pointer machines, over "somebody owns `o`" (`R o`): objects not yet created have never
    been destroyed; only created objects are owned; **an object is live (never destroyed) exactly while somebody owns it,
    and was destroyed exactly once otherwise** -/
structure Inv (R : Nat → Prop) (next : Nat) (cnt : Nat → Nat) : Prop where
  fresh : ∀ o, next ≤ o → cnt o = 0
  bound : ∀ o, R o → o < next
  live : ∀ o, o < next → (cnt o = 0 ∧ R o) ∨ (cnt o = 1 ∧ ¬ R o)

section
variable {R R' : Nat → Prop} {next : Nat} {cnt : Nat → Nat}

theorem Inv.owned (hi : Inv R next cnt) {o : Nat} (h : R o) :
    o < next ∧ cnt o = 0 :=
  ⟨hi.bound o h, (hi.live o (hi.bound o h)).elim (·.1) fun c => absurd h c.2⟩

theorem Inv.cnt_le_one (hi : Inv R next cnt) (o : Nat) : cnt o ≤ 1 := by
  rcases Nat.lt_or_ge o next with ho | ho
  · rcases hi.live o ho with ⟨a, _⟩ | ⟨a, _⟩ <;> omega
  · rw [hi.fresh o ho]; omega

/-- ownership moves between holders: nothing is created, nothing destroyed -/
theorem Inv.congr (hi : Inv R next cnt) (hr : ∀ o, R' o ↔ R o) :
    Inv R' next cnt := by
  rwa [show R' = R from funext fun o => propext (hr o)]

/-- a new object, owned from the start -/
theorem Inv.alloc (hi : Inv R next cnt)
    (hr : ∀ o, R' o ↔ o = next ∨ R o) : Inv R' (next + 1) cnt := by
  refine ⟨fun o ho => hi.fresh o (by omega), fun o h => ?_, fun o ho => ?_⟩
  · rcases (hr o).mp h with e | e
    · omega
    · exact Nat.lt_succ_of_lt (hi.bound o e)
  · by_cases e : o = next
    · exact .inl ⟨hi.fresh o (by omega), (hr o).mpr (.inl e)⟩
    · rcases hi.live o (by omega) with ⟨a, b⟩ | ⟨a, b⟩
      · exact .inl ⟨a, (hr o).mpr (.inr b)⟩
      · exact .inr ⟨a, fun c => ((hr o).mp c).elim e b⟩

/-- the last owner of `o` gives it up: `o`, and only `o`, is destroyed, once -/
theorem Inv.kill (hi : Inv R next cnt) {o : Nat} (ho : R o)
    (hno : ¬ R' o) (hr : ∀ o', o' ≠ o → (R' o' ↔ R o')) : Inv R' next (upd cnt o (cnt o + 1)) := by
  obtain ⟨hlt, hc⟩ := hi.owned ho
  have bound : ∀ o', R' o' → o' < next := fun o' h =>
    if e : o' = o then absurd (e ▸ h) hno else hi.bound o' ((hr o' e).mp h)
  refine ⟨fun o' ho' => ?_, bound, fun o' ho' => ?_⟩
  · rw [upd_ne _ _ (by omega)]; exact hi.fresh o' ho'
  · by_cases e : o' = o
    · subst e; exact .inr ⟨by rw [upd_self, hc], hno⟩
    · rw [upd_ne _ _ e, hr o' e]; exact hi.live o' ho'

end

/-- some handle among the `k` slots owns `o` -/
def RefdF (k : Nat) (slot : Nat → Slot) (o : Nat) : Prop := ∃ h, h < k ∧ slot h = some (some o)

def ShInv (s : Sh) : Prop := Inv (RefdF s.k s.slot) s.next s.cnt

theorem refd_iff (s : Sh) (o : Nat) : s.refd o = true ↔ RefdF s.k s.slot o := by
  unfold Sh.refd RefdF
  simp [List.any_eq_true, List.mem_range]

section
variable {k : Nat} {slot : Nat → Slot}

/-- slot `h` gets a value without target: `o` is still owned if `h` did not own it, or another handle owns it too -/
theorem refdF_clear {h : Nat} {v : Slot} (hv : ∀ o, v ≠ some (some o)) {o : Nat}
    (hs : slot h = some (some o) → ∃ g, g ≠ h ∧ g < k ∧ slot g = some (some o)) :
    RefdF k (upd slot h v) o ↔ RefdF k slot o := by
  constructor
  · rintro ⟨h', hk, h2⟩
    by_cases e : h' = h
    · rw [e, upd_self] at h2; exact absurd h2 (hv o)
    · rw [upd_ne _ _ e] at h2; exact ⟨h', hk, h2⟩
  · rintro ⟨h', hk, h2⟩
    by_cases e : h' = h
    · obtain ⟨g, ne, hg, h3⟩ := hs (e ▸ h2)
      exact ⟨g, hg, by rwa [upd_ne _ _ ne]⟩
    · exact ⟨h', hk, by rwa [upd_ne _ _ e]⟩

/-- a slot without target gets the value `v` -/
theorem refdF_fill {h : Nat} (hh : h < k) (hs : ∀ o, slot h ≠ some (some o)) (v : Slot)
    (o : Nat) : RefdF k (upd slot h v) o ↔ v = some (some o) ∨ RefdF k slot o := by
  constructor
  · rintro ⟨h', hk, h2⟩
    by_cases e : h' = h
    · rw [e, upd_self] at h2; exact .inl h2
    · rw [upd_ne _ _ e] at h2; exact .inr ⟨h', hk, h2⟩
  · rintro (e | ⟨h', hk, h2⟩)
    · exact ⟨h, hh, by rw [upd_self, e]⟩
    · have ne : h' ≠ h := fun e => hs o (e ▸ h2)
      exact ⟨h', hk, by rwa [upd_ne _ _ ne]⟩

/-- swap permutes the handles -/
theorem refdF_swap {h g : Nat} (hh : h < k) (hg : g < k) (o : Nat) :
    RefdF k (upd (upd slot h (slot g)) g (slot h)) o ↔ RefdF k slot o := by
  have e : ∀ a, upd (upd slot h (slot g)) g (slot h) a = slot (swapH h g a) := swap_apply slot h g
  have lt : ∀ a, a < k → swapH h g a < k := fun a ha => by
    unfold swapH
    split
    · exact hg
    · split
      · exact hh
      · exact ha
  exact ⟨fun ⟨a, ha, h2⟩ => ⟨_, lt a ha, e a ▸ h2⟩, fun ⟨a, ha, h2⟩ => ⟨_, lt a ha, by rw [e, swapH_invol]; exact h2⟩⟩

end

theorem clear_facts (s : Sh) (h : Nat) (v : Slot) :
    (s.clear h v).k = s.k ∧ (s.clear h v).next = s.next ∧ (s.clear h v).slot = upd s.slot h v := by
  simp only [Sh.clear]
  split
  · split <;> exact ⟨rfl, rfl, rfl⟩
  · exact ⟨rfl, rfl, rfl⟩

/-- a handle gives up its reference: the invariant survives (the object dies iff that was the last owner) -/
theorem inv_clear {s : Sh} (hi : ShInv s) {h : Nat} (hh : h < s.k) {v : Slot} (hv : ∀ o, v ≠ some (some o)) :
    ShInv (s.clear h v) := by
  simp only [ShInv, Sh.clear] at *
  split
  · next o hs =>
    have ho : RefdF s.k s.slot o := ⟨h, hh, hs⟩
    have others : ∀ o', o' ≠ o → (RefdF s.k (upd s.slot h v) o' ↔ RefdF s.k s.slot o') := fun o' hne =>
      refdF_clear hv fun e => absurd (Option.some.inj (Option.some.inj (hs.symm.trans e))).symm hne
    split
    · next hr =>
      rw [refd_iff] at hr
      exact hi.congr fun o' => if e : o' = o then e ▸ ⟨fun _ => ho, fun _ => hr⟩ else others o' e
    · next hr => exact hi.kill ho (fun c => hr ((refd_iff _ _).mpr c)) others
  · next hs => exact hi.congr fun o => refdF_clear hv fun e => absurd e (hs o)

theorem vacant_iff (s : Sh) (h : Nat) : s.vacant h = true ↔ h < s.k ∧ s.slot h = none := by
  unfold Sh.vacant; simp

theorem alive_iff (s : Sh) (h : Nat) : s.alive h = true ↔ h < s.k ∧ s.slot h ≠ none := by
  unfold Sh.alive; simp

theorem none_notarget {x : Slot} (h : x = none) : ∀ o, x ≠ some (some o) := by subst h; nofun

theorem inv_init (k : Nat) : ShInv (Sh.init k) :=
  ⟨fun _ _ => rfl, fun _ ⟨_, _, h⟩ => (nomatch h), fun _ h => absurd h (Nat.not_lt_zero _)⟩

/-- copy construction into a vacant slot -/
theorem inv_copy {s : Sh} (hi : ShInv s) {h g : Nat} (hh : h < s.k) (hs : s.slot h = none) (hg : g < s.k) :
    ShInv { s with slot := upd s.slot h (s.slot g) } :=
  hi.congr fun o => (refdF_fill hh (none_notarget hs) _ o).trans (or_iff_right_of_imp fun e => ⟨g, hg, e⟩)

/-- move construction into a vacant slot: a copy, after which `g` gives up its reference while `h` holds the same -/
theorem inv_move {s : Sh} (hi : ShInv s) {h g : Nat} (hh : h < s.k) (hs : s.slot h = none) (hg : g < s.k) (hne : h ≠ g) :
    ShInv { s with slot := upd (upd s.slot h (s.slot g)) g (some none) } :=
  (inv_copy hi hh hs hg).congr fun _ => refdF_clear (v := some none) nofun fun e =>
    ⟨h, hne, hh, by rw [upd_self]; rwa [upd_ne _ _ hne.symm] at e⟩

/-- a new object for a vacant slot -/
theorem inv_alloc {s : Sh} (hi : ShInv s) {h : Nat} (hh : h < s.k) (hs : s.slot h = none) : ShInv (s.alloc h) :=
  hi.alloc fun o => (refdF_fill hh (none_notarget hs) _ o).trans
    (or_congr_left ⟨fun e => (Option.some.inj (Option.some.inj e)).symm, fun e => e ▸ rfl⟩)

/-- after the wrapper in slot `h` was destroyed, the slot is vacant: the assignments go on like the constructors -/
theorem clear_vacant {s : Sh} (hi : ShInv s) {h : Nat} (hh : h < s.k) :
    ShInv (s.clear h none) ∧ (s.clear h none).k = s.k ∧ (s.clear h none).slot h = none := by
  obtain ⟨f1, _, f3⟩ := clear_facts s h none
  exact ⟨inv_clear hi hh nofun, f1, by rw [f3, upd_self]⟩

theorem sh_inv_step {s s' : Sh} {op : ShOp} {ob : PtrObs} (hi : ShInv s) (h : s.step op = some (s', ob)) : ShInv s' := by
  cases op <;> simp only [Sh.step, Option.ite_none_right_eq_some, vacant_iff, alive_iff] at h
  case ctor h0 =>
    obtain ⟨⟨hk, hs⟩, h⟩ := h; cases h
    exact hi.congr fun o => (refdF_fill hk (none_notarget hs) _ o).trans (or_iff_right nofun)
  case ctorp h0 => obtain ⟨⟨hk, hs⟩, h⟩ := h; cases h; exact inv_alloc hi hk hs
  case ctorc h0 g => obtain ⟨⟨⟨hk, hs⟩, hg, _⟩, h⟩ := h; cases h; exact inv_copy hi hk hs hg
  case ctorm h0 g =>
    obtain ⟨⟨⟨hk, hs⟩, hg, hgs⟩, h⟩ := h; cases h
    exact inv_move hi hk hs hg fun e => hgs (e ▸ hs)
  case dtor h0 => obtain ⟨⟨hk, _⟩, h⟩ := h; cases h; exact inv_clear hi hk nofun
  case asgc h0 g =>
    obtain ⟨⟨⟨hk, _⟩, hg, _⟩, h⟩ := h
    split at h <;> cases h
    · exact hi
    · obtain ⟨h1, f1, f3⟩ := clear_vacant hi hk
      exact inv_copy h1 (f1 ▸ hk) f3 (f1 ▸ hg)
  case asgm h0 g =>
    obtain ⟨⟨⟨hk, _⟩, hg, _⟩, h⟩ := h
    split at h <;> cases h
    · exact hi
    · next hne =>
      obtain ⟨h1, f1, f3⟩ := clear_vacant hi hk
      exact inv_move h1 (f1 ▸ hk) f3 (f1 ▸ hg) hne
  case asgn h0 => obtain ⟨⟨hk, _⟩, h⟩ := h; cases h; exact inv_clear hi hk nofun
  case asgp h0 =>
    obtain ⟨⟨hk, _⟩, h⟩ := h; cases h
    obtain ⟨h1, f1, f3⟩ := clear_vacant hi hk
    exact inv_alloc h1 (f1 ▸ hk) f3
  case swap h0 g => obtain ⟨⟨⟨hk, _⟩, hg, _⟩, h⟩ := h; cases h; exact hi.congr (refdF_swap hk hg)
  case get h0 => obtain ⟨_, h⟩ := h; cases h; exact hi
  case eq h0 g => obtain ⟨_, h⟩ := h; cases h; exact hi

theorem sh_inv_run : ∀ (ops : List ShOp) (s s' : Sh), ShInv s → s.run ops = some s' → ShInv s' := by
  intro ops
  induction ops with
  | nil => intro s s' hi h; cases h; exact hi
  | cons o os ih =>
    intro s s' hi h
    rw [Sh.run] at h
    split at h
    · cases h
    · next s1 ob hs => exact ih s1 s' (sh_inv_step hi hs) h

/-- **no use after destroy**: whatever the program did, every handle that owns something owns a created object whose
    destructor has not run -/
theorem sh_no_use_after_destroy (k : Nat) (ops : List ShOp) (s : Sh) (h : (Sh.init k).run ops = some s)
    (h0 o : Nat) (hk : h0 < s.k) (hs : s.slot h0 = some (some o)) : o < s.next ∧ s.cnt o = 0 :=
  (sh_inv_run ops _ s (inv_init k) h).owned ⟨h0, hk, hs⟩

/-- **no object is ever destroyed twice** -/
theorem sh_never_destroyed_twice (k : Nat) (ops : List ShOp) (s : Sh) (h : (Sh.init k).run ops = some s) (o : Nat) :
    s.cnt o ≤ 1 :=
  (sh_inv_run ops _ s (inv_init k) h).cnt_le_one o

theorem finishFrom_facts (s : Sh) (hi : ShInv s) : ∀ n, n ≤ s.k →
    ShInv (s.finishFrom n) ∧ (s.finishFrom n).k = s.k ∧ (s.finishFrom n).next = s.next ∧
    ∀ h, h < n → (s.finishFrom n).slot h = none := by
  intro n
  induction n with
  | zero => exact fun _ => ⟨hi, rfl, rfl, fun _ h => absurd h (Nat.not_lt_zero _)⟩
  | succ n ih =>
    intro hn
    obtain ⟨i1, i2, i3, i4⟩ := ih (by omega)
    simp only [Sh.finishFrom]
    split
    · obtain ⟨f1, f2, f3⟩ := clear_facts (s.finishFrom n) n none
      refine ⟨inv_clear i1 (by omega) nofun, f1.trans i2, f2.trans i3, fun h hh => ?_⟩
      rw [f3]
      by_cases e : h = n
      · rw [e, upd_self]
      · rw [upd_ne _ _ e]; exact i4 h (by omega)
    · next hna =>
      refine ⟨i1, i2, i3, fun h hh => ?_⟩
      by_cases e : h = n
      · -- slot `n` is inside the table and not alive: it is vacant
        subst e
        rw [alive_iff, i2] at hna
        exact Decidable.byContradiction fun c => hna ⟨hn, c⟩
      · exact i4 h (by omega)

/-- **exactly one destruction per managed object**: once the program's handles are gone, every object that was ever
    created has been destroyed exactly once — for every operation sequence -/
theorem sh_each_object_destroyed_exactly_once (k : Nat) (ops : List ShOp) (s : Sh) (h : (Sh.init k).run ops = some s)
    (o : Nat) (ho : o < s.next) : s.finish.cnt o = 1 := by
  obtain ⟨i1, i2, i3, i4⟩ := finishFrom_facts s (sh_inv_run ops _ s (inv_init k) h) s.k (Nat.le_refl _)
  rcases i1.live o (i3 ▸ ho) with ⟨_, h', hk, hs⟩ | ⟨a, _⟩
  · rw [i4 h' (i2 ▸ hk)] at hs; cases hs
  · exact a

/-- D16: self copy-assignment and self move-assignment change nothing (`std::shared_ptr` behaviour) -/
theorem sh_self_assign_keeps (s : Sh) (h : Nat) (ha : s.alive h = true) :
    s.step (.asgc h h) = some (s, .none) ∧ s.step (.asgm h h) = some (s, .none) := by
  simp [Sh.step, ha]

example : ∃ s, (Sh.init 2).run [.ctorp 0, .ctorc 1 0, .asgc 0 0, .dtor 0, .asgm 1 1] = some s ∧ s.cnt 0 = 0 ∧
    s.finish.cnt 0 = 1 := ⟨_, rfl, rfl, rfl⟩

/-- who can own an object in a unique_ptr program: a handle slot, or a raw pointer the program got from `release()` -/
inductive Holder where
  | slot (h : Nat)
  | raw (r : Nat)
  deriving DecidableEq

def own (s : Un) : Holder → Option Nat
  | .slot h => if h < s.k then s.target h else none
  | .raw r => if r < s.nraw then s.raw r else none

/-- the invariant: as for shared_ptr, plus **every object has at most one owner** -/
structure OInv (own : Holder → Option Nat) (next : Nat) (cnt : Nat → Nat) : Prop where
  inv : Inv (fun o => ∃ x, own x = some o) next cnt
  uniq : ∀ x y o, own x = some o → own y = some o → x = y

def UnInv (s : Un) : Prop := OInv (own s) s.next s.cnt

/-- ownership with holder `x` re-pointed to `v` -/
def setOwn (ow : Holder → Option Nat) (x : Holder) (v : Option Nat) : Holder → Option Nat :=
  fun z => if z = x then v else ow z

theorem setOwn_self (ow : Holder → Option Nat) (x : Holder) (v : Option Nat) : setOwn ow x v x = v := if_pos rfl

theorem setOwn_ne (ow : Holder → Option Nat) {x z : Holder} (v : Option Nat) (h : z ≠ x) : setOwn ow x v z = ow z :=
  if_neg h

theorem setOwn_eq_some {ow : Holder → Option Nat} {x z : Holder} {v : Option Nat} {o : Nat} :
    setOwn ow x v z = some o ↔ z = x ∧ v = some o ∨ z ≠ x ∧ ow z = some o := by
  by_cases c : z = x <;> simp [setOwn, c]

theorem setOwn_eq_self {ow : Holder → Option Nat} {x : Holder} {v : Option Nat} (h : ow x = v) : setOwn ow x v = ow :=
  funext fun z => by by_cases c : z = x <;> simp [setOwn, c, h]

/-- a later re-pointing of `x` hides an earlier one -/
theorem setOwn_shadow (ow : Holder → Option Nat) (x y : Holder) (a b c : Option Nat) :
    setOwn (setOwn (setOwn ow x a) y b) x c = setOwn (setOwn ow y b) x c :=
  funext fun z => by by_cases c : z = x <;> simp [setOwn, c]

theorem setOwn_setOwn (ow : Holder → Option Nat) (x : Holder) (a c : Option Nat) :
    setOwn (setOwn ow x a) x c = setOwn ow x c :=
  funext fun z => by by_cases c : z = x <;> simp [setOwn, c]

section
variable {ow : Holder → Option Nat} {next : Nat} {cnt : Nat → Nat}

/-- `delete` of what holder `x` owns: that object (and only it) is destroyed, once -/
theorem oinv_kill (hi : OInv ow next cnt) {x : Holder} {o : Nat}
    (hx : ow x = some o) : OInv (setOwn ow x none) next (upd cnt o (cnt o + 1)) := by
  have sub : ∀ z o', setOwn ow x none z = some o' → z ≠ x ∧ ow z = some o' := fun z o' h =>
    (setOwn_eq_some.mp h).resolve_left fun c => nomatch c.2
  refine ⟨hi.inv.kill ⟨x, hx⟩ (fun ⟨z, hz⟩ => (sub z o hz).1 (hi.uniq z x o (sub z o hz).2 hx)) fun o' hne =>
      ⟨fun ⟨z, hz⟩ => ⟨z, (sub z o' hz).2⟩, fun ⟨z, hz⟩ => ⟨z, ?_⟩⟩,
    fun z1 z2 o' h1 h2 => hi.uniq z1 z2 o' (sub _ _ h1).2 (sub _ _ h2).2⟩
  -- `z` is not `x`, which owns the other object `o`
  have : z ≠ x := fun c => hne (Option.some.inj ((c ▸ hz).symm.trans hx))
  rw [setOwn_ne _ _ this]; exact hz

/-- the destructor counts after `delete p` (nothing for a null pointer) -/
def delCnt (cnt : Nat → Nat) : Option Nat → Nat → Nat
  | none => cnt
  | some o => upd cnt o (cnt o + 1)


theorem delete_eq (s : Un) (t : Option Nat) : s.delete t = { s with cnt := delCnt s.cnt t } := by cases t <;> rfl

/-- holder `x` has what it owns, if anything, deleted -/
theorem oinv_drop (hi : OInv ow next cnt) {x : Holder}
    {t : Option Nat} (hx : ow x = t) : OInv (setOwn ow x none) next (delCnt cnt t) := by
  cases t with
  | none => rwa [setOwn_eq_self hx]
  | some o => exact oinv_kill hi hx

/-- a new object goes to an empty holder -/
theorem oinv_alloc (hi : OInv ow next cnt) {x : Holder}
    (hx : ow x = none) : OInv (setOwn ow x (some next)) (next + 1) cnt := by
  refine ⟨hi.inv.alloc fun o => ⟨fun ⟨z, hz⟩ => ?_, ?_⟩, fun z1 z2 o h1 h2 => ?_⟩
  · exact (setOwn_eq_some.mp hz).imp (fun c => (Option.some.inj c.2).symm) fun c => ⟨z, c.2⟩
  · rintro (rfl | ⟨z, hz⟩)
    · exact ⟨x, setOwn_self _ _ _⟩
    · exact ⟨z, setOwn_eq_some.mpr (.inr ⟨(fun c => by rw [c, hx] at hz; cases hz), hz⟩)⟩
  · -- the new object is not among those the old holders own
    have old : ∀ {z}, z ≠ x ∧ ow z = some o → o ≠ next := fun c => Nat.ne_of_lt (hi.inv.bound o ⟨_, c.2⟩)
    rcases setOwn_eq_some.mp h1 with c1 | c1 <;> rcases setOwn_eq_some.mp h2 with c2 | c2
    · rw [c1.1, c2.1]
    · exact absurd (Option.some.inj c1.2).symm (old c2)
    · exact absurd (Option.some.inj c2.2).symm (old c1)
    · exact hi.uniq z1 z2 o c1.2 c2.2

/-- `reset(new P)`: `x` has its old target deleted and gets the new object -/
theorem oinv_renew (hi : OInv ow next cnt) {x : Holder}
    {t : Option Nat} (hx : ow x = t) : OInv (setOwn ow x (some next)) (next + 1) (delCnt cnt t) := by
  have := oinv_alloc (oinv_drop hi hx) (setOwn_self ow x none)
  rwa [setOwn_setOwn] at this

/-- ownership moves along a permutation of the holders: nothing is destroyed -/
theorem oinv_perm {ow' : Holder → Option Nat} (hi : OInv ow next cnt) (x y : Holder)
    (e : ∀ z, ow' z = ow (swapH x y z)) : OInv ow' next cnt where
  inv := hi.inv.congr fun o =>
    ⟨fun ⟨z, hz⟩ => ⟨swapH x y z, e z ▸ hz⟩, fun ⟨z, hz⟩ => ⟨swapH x y z, by rw [e, swapH_invol]; exact hz⟩⟩
  uniq z1 z2 o h1 h2 := by
    have := congrArg (swapH x y) (hi.uniq _ _ o (e z1 ▸ h1) (e z2 ▸ h2))
    rwa [swapH_invol, swapH_invol] at this

theorem oinv_swap (hi : OInv ow next cnt) (x y : Holder) :
    OInv (setOwn (setOwn ow x (ow y)) y (ow x)) next cnt :=
  oinv_perm hi x y (swap_apply ow x y)

/-- an empty holder `x` takes over what `y` owns -/
theorem oinv_move (hi : OInv ow next cnt) {x : Holder}
    (hx : ow x = none) (y : Holder) : OInv (setOwn (setOwn ow y none) x (ow y)) next cnt :=
  oinv_perm hi x y fun z => by
    by_cases c1 : z = x
    · simp [setOwn, swapH, c1]
    · by_cases c2 : z = y
      · subst c2; simp [setOwn, swapH, c1, hx]
      · simp [setOwn, swapH, c1, c2]

/-- `x.reset(y.release())`: `x` has its old target deleted and takes over what `y` owns -/
theorem oinv_take (hi : OInv ow next cnt) {x y : Holder}
    (hne : y ≠ x) {t : Option Nat} (hx : ow x = t) : OInv (setOwn (setOwn ow y none) x (ow y)) next (delCnt cnt t) := by
  have := oinv_move (oinv_drop hi hx) (setOwn_self ow x none) y
  rwa [setOwn_ne _ _ hne, setOwn_shadow] at this

end

theorem holder_slot_ne {a b : Nat} (h : a ≠ b) : Holder.slot a ≠ Holder.slot b := fun e => h (Holder.slot.inj e)
theorem holder_slot_raw (a b : Nat) : Holder.slot a ≠ Holder.raw b := nofun
theorem holder_raw_ne {a b : Nat} (h : a ≠ b) : Holder.raw a ≠ Holder.raw b := fun e => h (Holder.raw.inj e)

/-- `own` reads the handle table and the table of released pointers, nothing else -/
def ownF (k : Nat) (slot : Nat → Slot) (nraw : Nat) (raw : Nat → Option Nat) : Holder → Option Nat
  | .slot h => if h < k then (slot h).getD none else none
  | .raw r => if r < nraw then raw r else none

theorem own_eq (s : Un) : own s = ownF s.k s.slot s.nraw s.raw := funext fun z => by cases z <;> rfl

theorem own_slot {s : Un} {h : Nat} (hh : h < s.k) : own s (.slot h) = (s.slot h).getD none := if_pos hh
theorem own_raw {s : Un} {r : Nat} (hr : r < s.nraw) : own s (.raw r) = s.raw r := if_pos hr

theorem ownF_updSlot {k : Nat} (slot : Nat → Slot) {h : Nat} (hh : h < k) (v : Slot) (nraw : Nat) (raw : Nat → Option Nat) :
    ownF k (upd slot h v) nraw raw = setOwn (ownF k slot nraw raw) (.slot h) (v.getD none) :=
  funext fun z => by
    cases z with
    | slot a =>
      by_cases c : a = h
      · rw [c, setOwn_self, ownF, upd_self, if_pos hh]
      · rw [setOwn_ne _ _ (holder_slot_ne c), ownF, ownF, upd_ne _ _ c]
    | raw r => exact (setOwn_ne (ownF k slot nraw raw) _ (holder_slot_raw h r).symm).symm

theorem ownF_updRaw (k : Nat) (slot : Nat → Slot) {nraw r : Nat} (hr : r < nraw) (raw : Nat → Option Nat) (v : Option Nat) :
    ownF k slot nraw (upd raw r v) = setOwn (ownF k slot nraw raw) (.raw r) v :=
  funext fun z => by
    cases z with
    | slot a => exact (setOwn_ne (ownF k slot nraw raw) _ (holder_slot_raw a r)).symm
    | raw q =>
      by_cases c : q = r
      · rw [c, setOwn_self, ownF, upd_self, if_pos hr]
      · rw [setOwn_ne _ _ (holder_raw_ne c), ownF, ownF, upd_ne _ _ c]

/-- `release()` hands the program one more raw pointer -/
theorem ownF_pushRaw (k : Nat) (slot : Nat → Slot) (nraw : Nat) (raw : Nat → Option Nat) (v : Option Nat) :
    ownF k slot (nraw + 1) (upd raw nraw v) = setOwn (ownF k slot nraw raw) (.raw nraw) v :=
  funext fun z => by
    cases z with
    | slot a => exact (setOwn_ne (ownF k slot nraw raw) _ (holder_slot_raw a nraw)).symm
    | raw q =>
      by_cases c : q = nraw
      · rw [c, setOwn_self, ownF, upd_self, if_pos (Nat.lt_succ_self _)]
      · rw [setOwn_ne _ _ (holder_raw_ne c), ownF, ownF, upd_ne _ _ c]
        by_cases c2 : q < nraw
        · rw [if_pos c2, if_pos (Nat.lt_succ_of_lt c2)]
        · rw [if_neg c2, if_neg (by omega)]

theorem un_vacant_iff (s : Un) (h : Nat) : s.vacant h = true ↔ h < s.k ∧ s.slot h = none := by
  unfold Un.vacant; simp

theorem un_alive_iff (s : Un) (h : Nat) : s.alive h = true ↔ h < s.k ∧ s.slot h ≠ none := by
  unfold Un.alive; simp

theorem own_init (k : Nat) (z : Holder) : own (Un.init k) z = none := by
  cases z with
  | slot h => exact ite_self none
  | raw r => simp [own, Un.init]

theorem un_inv_init (k : Nat) : UnInv (Un.init k) :=
  have none : ∀ {x o}, own (Un.init k) x ≠ some o := fun h => nomatch (own_init k _).symm.trans h
  ⟨⟨fun _ _ => rfl, fun _ ⟨_, h⟩ => absurd h none, fun _ h => absurd h (Nat.not_lt_zero _)⟩, fun _ _ _ h => absurd h none⟩

theorem getD_of_ne_none {x : Slot} (h : x ≠ none) : some (x.getD none) = x := by
  cases x with
  | none => exact absurd rfl h
  | some t => rfl

theorem own_vacant {s : Un} {h : Nat} (hh : h < s.k) (hs : s.slot h = none) : own s (.slot h) = none := by
  rw [own_slot hh, hs]; rfl

/-- each operation re-points one or two holders of the ownership function -/
theorem un_inv_step {s s' : Un} {op : UnOp} {ob : PtrObs} (hi : UnInv s) (h : s.step op = some (s', ob)) : UnInv s' := by
  rw [UnInv, own_eq]
  cases op <;> simp only [Un.step, Option.ite_none_right_eq_some, un_vacant_iff, un_alive_iff] at h
  case ctor h0 =>
    obtain ⟨⟨hk, hs⟩, h⟩ := h; cases h
    simp only [ownF_updSlot _ hk, Option.getD_some, ← own_eq]
    rwa [setOwn_eq_self (own_vacant hk hs)]
  case ctorp h0 =>
    obtain ⟨⟨hk, hs⟩, h⟩ := h; cases h
    simp only [ownF_updSlot _ hk, Option.getD_some, ← own_eq]
    exact oinv_renew hi (own_vacant hk hs)
  case ctorm h0 g =>
    obtain ⟨⟨⟨hk, hs⟩, hg, _⟩, h⟩ := h; cases h
    simp only [Un.target, ownF_updSlot _ hk, ownF_updSlot _ hg, Option.getD_some, ← own_eq, ← own_slot hg]
    exact oinv_move hi (own_vacant hk hs) _
  case dtor h0 | asgn h0 | reset h0 | tostd h0 =>
    obtain ⟨⟨hk, _⟩, h⟩ := h; cases h
    simp only [Un.reset, Un.target, delete_eq, ownF_updSlot _ hk, Option.getD_some, Option.getD_none, ← own_eq]
    exact oinv_drop hi (own_slot hk)
  case asgp h0 | resetp h0 =>
    obtain ⟨⟨hk, _⟩, h⟩ := h; cases h
    simp only [Un.reset, Un.target, delete_eq, ownF_updSlot _ hk, Option.getD_some, ← own_eq]
    exact oinv_renew hi (own_slot hk)
  case asgm h0 g =>
    obtain ⟨⟨⟨hk, _⟩, hg, _⟩, h⟩ := h; cases h
    by_cases e : g = h0
    · -- self move-assignment: release() empties the handle, reset(p) finds nothing to delete and stores p back
      subst e
      simp only [Un.reset, Un.target, delete_eq, ownF_updSlot _ hk, upd_self, Option.getD_some, ← own_eq, setOwn_setOwn]
      rwa [setOwn_eq_self (own_slot hk)]
    · simp only [Un.reset, Un.target, delete_eq, ownF_updSlot _ hk, ownF_updSlot _ hg, upd_ne _ _ (Ne.symm e),
        Option.getD_some, ← own_eq, ← own_slot hg]
      exact oinv_take hi (holder_slot_ne e) (own_slot hk)
  case release h0 =>
    obtain ⟨⟨hk, _⟩, h⟩ := h; cases h
    simp only [Un.target, ownF_pushRaw, ownF_updSlot _ hk, Option.getD_some, ← own_eq, ← own_slot hk]
    -- the new raw pointer owned nothing so far: it exchanges that for the handle's target
    have := oinv_swap hi (.raw s.nraw) (.slot h0)
    rwa [show own s (.raw s.nraw) = none from if_neg (Nat.lt_irrefl _)] at this
  case adopt h0 r =>
    obtain ⟨⟨⟨hk, _⟩, hr, _⟩, h⟩ := h; cases h
    simp only [Un.reset, Un.target, delete_eq, ownF_updSlot _ hk, ownF_updRaw _ _ hr, Option.getD_some, ← own_eq,
      ← own_raw hr]
    exact oinv_take hi (holder_slot_raw h0 r).symm (own_slot hk)
  case del r =>
    obtain ⟨⟨hr, _⟩, h⟩ := h; cases h
    simp only [delete_eq, ownF_updRaw _ _ hr, ← own_eq]
    exact oinv_drop hi (own_raw hr)
  case swap h0 g =>
    obtain ⟨⟨⟨hk, _⟩, hg, _⟩, h⟩ := h; cases h
    simp only [ownF_updSlot _ hk, ownF_updSlot _ hg, ← own_eq, ← own_slot hk, ← own_slot hg]
    exact oinv_swap hi _ _
  case get h0 | eq h0 g => obtain ⟨_, h⟩ := h; cases h; rwa [← own_eq]

theorem un_inv_run : ∀ (ops : List UnOp) (s s' : Un), UnInv s → s.run ops = some s' → UnInv s' := by
  intro ops
  induction ops with
  | nil => intro s s' hi h; cases h; exact hi
  | cons o os ih =>
    intro s s' hi h
    rw [Un.run] at h
    split at h
    · cases h
    · next s1 ob hs => exact ih s1 s' (un_inv_step hi hs) h

/-- **no use after destroy**: whatever a handle or a released raw pointer refers to is a created object whose
    destructor has not run -/
theorem un_no_use_after_destroy (k : Nat) (ops : List UnOp) (s : Un) (h : (Un.init k).run ops = some s)
    (x : Holder) (o : Nat) (hx : own s x = some o) : o < s.next ∧ s.cnt o = 0 :=
  (un_inv_run ops _ s (un_inv_init k) h).inv.owned ⟨x, hx⟩

theorem un_never_destroyed_twice (k : Nat) (ops : List UnOp) (s : Un) (h : (Un.init k).run ops = some s) (o : Nat) :
    s.cnt o ≤ 1 :=
  (un_inv_run ops _ s (un_inv_init k) h).inv.cnt_le_one o

/-- **ownership is unique**: no two holders (handles or released raw pointers) ever own the same object -/
theorem un_unique_owner (k : Nat) (ops : List UnOp) (s : Un) (h : (Un.init k).run ops = some s)
    (x y : Holder) (o : Nat) (hx : own s x = some o) (hy : own s y = some o) : x = y :=
  (un_inv_run ops _ s (un_inv_init k) h).uniq x y o hx hy

/-- at any moment every created object is either live and owned, or destroyed exactly once and owned by nobody -/
theorem un_owned_or_destroyed_once (k : Nat) (ops : List UnOp) (s : Un) (h : (Un.init k).run ops = some s) (o : Nat)
    (ho : o < s.next) : (s.cnt o = 0 ∧ ∃ x, own s x = some o) ∨ (s.cnt o = 1 ∧ ¬ ∃ x, own s x = some o) :=
  (un_inv_run ops _ s (un_inv_init k) h).inv.live o ho

theorem stepD_inv {s : Un} (hi : UnInv s) (op : UnOp) : UnInv (s.stepD op) := by
  unfold Un.stepD
  split
  · next hs => exact un_inv_step hi hs
  · exact hi

/-- the destructor at the end of the program leaves slot `h` owning nothing, whatever state it finds -/
theorem stepD_dtor_own (h : Nat) (s : Un) :
    (s.stepD (.dtor h)).next = s.next ∧ own (s.stepD (.dtor h)) = setOwn (own s) (.slot h) none := by
  simp only [Un.stepD, Un.step]
  by_cases c : s.alive h = true
  · obtain ⟨hk, _⟩ := (un_alive_iff s h).mp c
    rw [if_pos c]
    refine ⟨by rw [delete_eq], ?_⟩
    rw [own_eq]
    simp only [delete_eq, ownF_updSlot _ hk, Option.getD_none, ← own_eq]
  · rw [if_neg c]
    refine ⟨rfl, (setOwn_eq_self ?_).symm⟩
    by_cases hk : h < s.k
    · rw [un_alive_iff] at c
      rw [own_slot hk, Decidable.byContradiction fun e => c ⟨hk, e⟩]
      rfl
    · exact if_neg hk

/-- likewise `delete` of the raw pointer `r` -/
theorem stepD_del_own (r : Nat) (s : Un) :
    (s.stepD (.del r)).next = s.next ∧ own (s.stepD (.del r)) = setOwn (own s) (.raw r) none := by
  simp only [Un.stepD, Un.step]
  by_cases c : r < s.nraw ∧ (s.raw r).isSome
  · rw [if_pos c]
    refine ⟨by rw [delete_eq], ?_⟩
    rw [own_eq]
    simp only [delete_eq, ownF_updRaw _ _ c.1, ← own_eq]
  · rw [if_neg c]
    refine ⟨rfl, (setOwn_eq_self ?_).symm⟩
    by_cases hr : r < s.nraw
    · rw [own_raw hr]
      exact Option.not_isSome_iff_eq_none.mp fun e => c ⟨hr, e⟩
    · exact if_neg hr

/-- the end of the program, slots or raw pointers alike: a sequence of steps of which the `i`-th empties holder `x i`
    keeps the invariant and the objects created, empties `x i` for every `i` below its length, and fills no holder -/
theorem drain {F : Nat → Un} {op : Nat → UnOp} {x : Nat → Holder} (hF : ∀ n, F (n + 1) = (F n).stepD (op n))
    (hd : ∀ n s, (s.stepD (op n)).next = s.next ∧ own (s.stepD (op n)) = setOwn (own s) (x n) none) (hi : UnInv (F 0)) :
    ∀ n, UnInv (F n) ∧ (F n).next = (F 0).next ∧ (∀ i, i < n → own (F n) (x i) = none) ∧
      ∀ z, own (F 0) z = none → own (F n) z = none := by
  intro n
  induction n with
  | zero => exact ⟨hi, rfl, fun _ h => absurd h (Nat.not_lt_zero _), fun _ h => h⟩
  | succ n ih =>
    obtain ⟨i1, i2, i3, i4⟩ := ih
    obtain ⟨d1, d2⟩ := hd n (F n)
    have keep : ∀ z, own (F n) z = none → own (F (n + 1)) z = none := fun z hz => by
      rw [hF, d2]
      by_cases e : z = x n
      · rw [e, setOwn_self]
      · rw [setOwn_ne _ _ e, hz]
    refine ⟨hF n ▸ stepD_inv i1 _, by rw [hF, d1, i2], fun i hi => ?_, fun z hz => keep z (i4 z hz)⟩
    by_cases e : i = n
    · rw [e, hF, d2, setOwn_self]
    · exact keep _ (i3 i (by omega))

/-- **exactly one destruction per managed object**: once the handles are destroyed and the released pointers deleted,
    every object that was ever created has been destroyed exactly once — for every operation sequence -/
theorem un_each_object_destroyed_exactly_once (k : Nat) (ops : List UnOp) (s : Un) (h : (Un.init k).run ops = some s)
    (o : Nat) (ho : o < s.next) : s.finish.cnt o = 1 := by
  obtain ⟨a1, a2, a3, a4⟩ := drain (F := s.finishSlots) (x := .slot) (fun _ => rfl) stepD_dtor_own
    (un_inv_run ops _ s (un_inv_init k) h) s.k
  obtain ⟨b1, b2, b3, b4⟩ := drain (F := (s.finishSlots s.k).finishRaws) (x := .raw) (fun _ => rfl) stepD_del_own a1
    (s.finishSlots s.k).nraw
  -- in the end nobody owns anything: holders inside the tables were emptied, those outside never owned
  have empty : ∀ z, own ((s.finishSlots s.k).finishRaws (s.finishSlots s.k).nraw) z = none := fun z => by
    cases z with
    | slot a => exact b4 _ (if ha : a < s.k then a3 a ha else a4 _ (if_neg ha))
    | raw r => exact if hr : r < (s.finishSlots s.k).nraw then b3 r hr else b4 _ (if_neg hr)
  rcases b1.inv.live o (by rw [b2.trans a2]; exact ho) with ⟨_, x, hx⟩ | ⟨c, _⟩
  · rw [empty x] at hx; cases hx
  · exact c

example : ∃ s, (Un.init 2).run [.ctorp 0, .ctor 1, .asgm 1 0, .asgm 1 1, .release 1, .resetp 0, .adopt 1 0] = some s ∧
    s.cnt 0 = 0 ∧ s.finish.cnt 0 = 1 ∧ s.finish.cnt 1 = 1 := ⟨_, rfl, rfl, rfl, rfl⟩

end Otel.C20
