import OtelVerif.Model.TabHex
import OtelVerif.Gen.TabHex
import OtelVerif.Lemmas.Tab
/-! # The model equals the code's complete graph: `detail/hex.h`, `ToLowerBase16`, `TraceFlags`, the version and flags
    fields of `http_trace_context.h`

`Gen/TabHex.lean` is produced on every check run by calling the real functions of the working tree on their whole domain
(`tools/tabulate.py`, `harness/tab/tab_api.cc`).  Each theorem below says that the hand-written model, restricted to that
domain, is that table — for every entry, kernel-checked.  A rewrite of the C++ that keeps the behaviour keeps the tables;
a change of behaviour changes an entry and the corresponding theorem stops closing. -/
namespace Otel.Tab
open Otel

/-- `kHexDigits`, as extracted from the source text, is the list of values the compiled `HexToInt` returns; comparing the
    two lists once is linear, a look-up into the 256-element list per byte is not -/
theorem tab_hexToInt : ∀ b : UInt8, TabModel.hexToInt b = Gen.Tab.hexToInt b :=
  fun b => (eq_table Gen.Tab.hexToInt Gen.kHexDigits 255 (by decide +kernel) b).symm

/-! On one and two characters `IsValidHex` and `HexToBinary` are `HexToInt` per character, so their tables are checked
    against the `HexToInt` table rather than by running the model again. -/

theorem isValidHex1_eq (a : UInt8) : TabModel.isValidHex1 a = (TabModel.hexToInt a != 255) := by
  simp [TabModel.isValidHex1, TabModel.hexToInt, isValidHex, isHexDigit]
theorem hexToBinary1_eq (a : UInt8) : TabModel.hexToBinary1 a = TabModel.hexToInt a := by
  simp [TabModel.hexToBinary1, TabModel.hexToInt, hexToBinary]
theorem hexToBinary2_eq (a b : UInt8) :
    TabModel.hexToBinary2 a b = (TabModel.hexToInt a <<< 4) ||| TabModel.hexToInt b := by
  simp [TabModel.hexToBinary2, TabModel.hexToInt, hexToBinary, hexPairs]

theorem tab_isValidHex1 : ∀ b : UInt8, TabModel.isValidHex1 b = Gen.Tab.isValidHex1 b := by
  have h : ∀ b : UInt8, (Gen.Tab.hexToInt b != 255) = Gen.Tab.isValidHex1 b := forall_byte _ (by decide +kernel)
  intro b; rw [isValidHex1_eq, tab_hexToInt, h]
theorem tab_hexToBinary1 : ∀ b : UInt8, TabModel.hexToBinary1 b = Gen.Tab.hexToBinary1 b := by
  have h : Gen.Tab.hexToBinary1Row = Gen.Tab.hexToIntRow := by decide +kernel
  intro b; rw [hexToBinary1_eq, tab_hexToInt, Gen.Tab.hexToBinary1, h, Gen.Tab.hexToInt]

/-- the 22 hex digit characters -/
def hexChars : List UInt8 := [48, 49, 50, 51, 52, 53, 54, 55, 56, 57, 97, 98, 99, 100, 101, 102, 65, 66, 67, 68, 69, 70]

/-- `HexToBinary` on two characters, kernel-checked on every pair of hex digits (484); `tab_hexToBinary2_cross`
    (Props/TabHexB.lean) adds every byte in either position beside two fixed partners.  (All 65 536 pairs of the table are compared with the compiled model on
    every run by `tools/tabdiff.py`.) -/
theorem tab_hexToBinary2_digits : ∀ a ∈ hexChars, ∀ b ∈ hexChars, TabModel.hexToBinary2 a b = Gen.Tab.hexToBinary2 a b := by
  have h : ∀ a ∈ hexChars, ∀ b ∈ hexChars,
      (Gen.Tab.hexToInt a <<< 4) ||| Gen.Tab.hexToInt b = Gen.Tab.hexToBinary2 a b := by decide +kernel
  intro a ha b hb; rw [hexToBinary2_eq, tab_hexToInt, tab_hexToInt, h a ha b hb]

/-- return value, too-long input, odd length, left padding -/
theorem tab_hexToBinaryShort : ∀ p ∈ Gen.Tab.hexToBinaryShort, TabModel.hexToBinaryShort p.1 = p.2 :=
  graph_of_chunks _ _ _ (by decide +kernel)

theorem tab_traceIdLower : ∀ p ∈ Gen.Tab.traceIdLower, TabModel.traceIdLower p.1 = p.2 := graph_of_chunks _ _ _ (by decide +kernel)
theorem tab_spanIdLower : ∀ p ∈ Gen.Tab.spanIdLower, TabModel.spanIdLower p.1 = p.2 := graph_of_chunks _ _ _ (by decide +kernel)
theorem tab_flagsLower : ∀ b : UInt8, TabModel.flagsLower b = Gen.Tab.flagsLower b := eq_table _ _ _ (by decide +kernel)
theorem tab_flagsIsSampled : ∀ b : UInt8, TabModel.flagsIsSampled b = Gen.Tab.flagsIsSampled b := forall_byte _ (by decide +kernel)
theorem tab_flagsIsRandom : ∀ b : UInt8, TabModel.flagsIsRandom b = Gen.Tab.flagsIsRandom b := forall_byte _ (by decide +kernel)

end Otel.Tab
