import OtelVerif.Model.Histogram
import Mathlib.Algebra.Order.Ring.Rat
import Mathlib.Algebra.BigOperators.Group.List.Basic
import Mathlib.Tactic.Linarith
import Mathlib.Algebra.Order.Field.Basic
import Mathlib.Algebra.Order.Field.Rat
import OtelVerif.Lemmas.SeriesStore
import OtelVerif.Lemmas.SeriesKey
import OtelVerif.Lemmas.SeriesFree
import OtelVerif.Model.HistogramStore
/-! # C07 — histogram points are exact summaries of the recorded values

The declarative side is written from the property text:
* `InBucket bs i v` : "bucket i holds the values v with boundary[i-1] < v ≤ boundary[i], the last bucket
  everything above the top boundary";
* `specCounts bs vs` : for every bucket the number of recorded values it holds;
* count = number of values, sum = Σ values, min / max = least / greatest recorded value;
* "combining intervals is lossless": the merge of the points of any split equals the point of all values.
The model (`Otel.Hist`) mirrors the C++; the theorems relate the two for every sorted boundary list, every value
list and both value kinds. -/
namespace Otel.C07
open Otel.Hist

/-- boundary lists are sorted (duplicates allowed: such a bucket is simply empty) -/
abbrev Sorted (bs : List Rat) : Prop := bs.Pairwise (· ≤ ·)

example : Sorted [] := List.Pairwise.nil
example : Sorted [(5 : Rat)] := by simp [Sorted]
example : Sorted [(0 : Rat), 1 / 4, 1 / 2, 1 / 2, 10] := by decide +kernel

/-- the property's bucket rule: `b[i-1] < v ≤ b[i]`; no lower bound for bucket 0, no upper bound for the last bucket -/
def InBucket (bs : List Rat) (i : Nat) (v : Rat) : Prop :=
  i ≤ bs.length ∧ (∀ h : i - 1 < bs.length, 0 < i → bs[i - 1] < v) ∧ (∀ h : i < bs.length, v ≤ bs[i])

theorem bucket_le_length (v : Rat) (bs : List Rat) : bucket v bs ≤ bs.length := by
  induction bs with
  | nil => simp [bucket]
  | cons b bs ih =>
    unfold bucket
    split
    · exact Nat.succ_le_succ ih
    · exact Nat.zero_le _

/-- every boundary before the chosen index is `< v`, every boundary from it on is `≥ v` -/
theorem bucket_spec {bs : List Rat} (hs : Sorted bs) (v : Rat) :
    (∀ j, j < bucket v bs → ∀ h : j < bs.length, bs[j] < v) ∧
    (∀ j, bucket v bs ≤ j → ∀ h : j < bs.length, v ≤ bs[j]) := by
  induction bs with
  | nil => simp
  | cons b bs ih =>
    obtain ⟨hb, hs'⟩ := List.pairwise_cons.mp hs
    obtain ⟨ih1, ih2⟩ := ih hs'
    unfold bucket
    split
    · rename_i hlt
      refine ⟨fun j hj h => ?_, fun j hj h => ?_⟩
      · cases j with
        | zero => exact hlt
        | succ j => exact ih1 j (Nat.lt_of_succ_lt_succ hj) (Nat.lt_of_succ_lt_succ h)
      · cases j with
        | zero => exact absurd hj (Nat.not_succ_le_zero _)
        | succ j => exact ih2 j (Nat.le_of_succ_le_succ hj) (Nat.lt_of_succ_lt_succ h)
    · rename_i hlt
      refine ⟨fun j hj => absurd hj (Nat.not_lt_zero _), fun j _ h => ?_⟩
      have hvb : v ≤ b := not_lt.mp hlt
      cases j with
      | zero => exact hvb
      | succ j => exact le_trans hvb (hb _ (List.getElem_mem (Nat.lt_of_succ_lt_succ h)))

/-- the index computed is a bucket in the sense of the property -/
theorem bucket_inBucket {bs : List Rat} (hs : Sorted bs) (v : Rat) : InBucket bs (bucket v bs) v := by
  obtain ⟨h1, h2⟩ := bucket_spec hs v
  refine ⟨bucket_le_length v bs, ?_, ?_⟩
  · intro h hpos; exact h1 _ (by omega) h
  · intro h; exact h2 _ (le_refl _) h

/-- … and it is the only one: every value lies in exactly one bucket -/
theorem bucket_unique {bs : List Rat} (hs : Sorted bs) (v : Rat) (i : Nat) : InBucket bs i v ↔ i = bucket v bs := by
  constructor
  · rintro ⟨hi, hlo, hhi⟩
    obtain ⟨h1, h2⟩ := bucket_spec hs v
    have hk := bucket_le_length v bs
    by_contra hne
    rcases Nat.lt_or_gt_of_ne hne with hlt | hgt
    · have hil : i < bs.length := Nat.lt_of_lt_of_le hlt hk
      exact absurd (lt_of_lt_of_le (h1 i hlt hil) (hhi hil)) (lt_irrefl _)
    · have hpos : 0 < i := Nat.zero_lt_of_lt hgt
      have hil : i - 1 < bs.length := Nat.lt_of_lt_of_le (Nat.sub_one_lt (Nat.ne_of_gt hpos)) hi
      exact absurd (lt_of_lt_of_le (hlo hil hpos) (h2 (i - 1) (Nat.le_sub_one_of_lt hgt) hil)) (lt_irrefl _)
  · rintro rfl; exact bucket_inBucket hs v

/-- the last bucket holds exactly the values above the top boundary (above every boundary) -/
theorem bucket_last_iff {bs : List Rat} (hs : Sorted bs) (v : Rat) : bucket v bs = bs.length ↔ ∀ b ∈ bs, b < v := by
  obtain ⟨h1, h2⟩ := bucket_spec hs v
  constructor
  · intro h b hb
    obtain ⟨j, hj, rfl⟩ := List.getElem_of_mem hb
    exact h1 j (by omega) hj
  · intro h
    by_contra hne
    have hk := bucket_le_length v bs
    have hlt : bucket v bs < bs.length := by omega
    have := h2 _ (le_refl _) hlt
    exact absurd (lt_of_lt_of_le (h _ (List.getElem_mem hlt)) this) (lt_irrefl _)

example : bucket (5 : Rat) [0, 5, 10] = 1 := by decide +kernel          -- a value equal to a boundary belongs below it
example : bucket (11 : Rat) [0, 5, 10] = 3 := by decide +kernel         -- above the top boundary: last bucket
example : bucket (3 : Rat) [] = 0 := by decide +kernel

/-- the number of recorded values in every bucket, by the property's rule (`InBucket` decided classically) -/
noncomputable def specCounts (bs : List Rat) (vs : List Rat) : List Nat := by
  classical exact (List.range (bs.length + 1)).map fun i => vs.countP fun v => decide (InBucket bs i v)

/-- counts as the model computes them: per index the number of values sent there by `bucket`.  (`closed` and
    `counts_eq_spec` apply it to `vs.map k.conv`; `Kind.conv` is the identity for both kinds — `conv_double`,
    `conv_long` — so that is `vs`.) -/
def bucketCounts (bs : List Rat) (cs : List Rat) : List Nat :=
  (List.range (bs.length + 1)).map fun i => cs.countP fun v => bucket v bs == i

theorem conv_double (v : Rat) : Kind.double.conv v = v := rfl

/-- `BucketBinarySearch(int64_t, …)` compares the exact value with the boundaries (`boundaryLess_iff`), not its
    conversion to `double` -/
theorem conv_long (v : Rat) : Kind.long.conv v = v := rfl

theorem cmin_eq_min (a b : Rat) : cmin a b = min a b := by
  unfold cmin; by_cases h : b < a
  · rw [if_pos h, min_eq_right (le_of_lt h)]
  · rw [if_neg h, min_eq_left (not_lt.mp h)]

theorem cmax_eq_max (a b : Rat) : cmax a b = max a b := by
  unfold cmax; by_cases h : a < b
  · rw [if_pos h, max_eq_right (le_of_lt h)]
  · rw [if_neg h, max_eq_left (not_lt.mp h)]

/-- what the point *should* be, field by field, in terms of the recorded list only -/
def closed (k : Kind) (cfg : Option Config) (vs : List Rat) : Point :=
  let p0 := new k cfg
  { boundaries := p0.boundaries
    counts := bucketCounts p0.boundaries (vs.map k.conv)
    count := vs.length
    sum := vs.sum
    min := if p0.recordMinMax then vs.foldl min k.minInit else k.minInit
    max := if p0.recordMinMax then vs.foldl max k.maxInit else k.maxInit
    recordMinMax := p0.recordMinMax }

theorem modify_range_map (n idx : Nat) (g : Nat → Nat) :
    ((List.range n).map g).modify idx (· + 1) = (List.range n).map fun i => g i + if idx = i then 1 else 0 := by
  apply List.ext_getElem
  · simp
  · intro j h1 h2
    simp only [List.length_modify, List.length_map, List.length_range] at h1
    rw [List.getElem_modify]
    simp only [List.getElem_map, List.getElem_range]
    by_cases hj : idx = j <;> simp [hj]

theorem bucketCounts_snoc (bs cs : List Rat) (c : Rat) :
    bucketCounts bs (cs ++ [c]) = (bucketCounts bs cs).modify (bucket c bs) (· + 1) := by
  unfold bucketCounts
  rw [modify_range_map]
  apply List.map_congr_left
  intro i _
  simp [List.countP_append, List.countP_cons]

/-- `closed` follows `Aggregate` value by value -/
theorem closed_snoc (k : Kind) (cfg : Option Config) (vs : List Rat) (v : Rat) :
    closed k cfg (vs ++ [v]) = aggregate k (closed k cfg vs) v := by
  -- field by field: counts by `bucketCounts_snoc`; count and sum by `length_append`, `sum_append`; min and max (if
  -- recorded) by `foldl_append`, `std::min`/`std::max` being `min`/`max`
  by_cases h : (new k cfg).recordMinMax = true <;>
    simp [closed, aggregate, h, bucketCounts_snoc, cmin_eq_min, cmax_eq_max, List.foldl_append]

theorem hist_eq_closed (k : Kind) (cfg : Option Config) (vs : List Rat) : hist k cfg vs = closed k cfg vs := by
  have hnil : closed k cfg [] = new k cfg := by
    simp only [closed, List.foldl_nil, ite_self]; simp [bucketCounts, new]
  have hfold : ∀ us, vs.foldl (aggregate k) (closed k cfg us) = closed k cfg (us ++ vs) := by
    induction vs with
    | nil => intro us; simp
    | cons v vs ih => intro us; rw [List.foldl_cons, ← closed_snoc, ih, List.append_assoc]; rfl
  rw [hist, ← hnil, hfold, List.nil_append]

/-- the structural invariant the C++ relies on when it indexes `counts_` -/
theorem hist_wf (k : Kind) (cfg : Option Config) (vs : List Rat) :
    (hist k cfg vs).counts.length = (hist k cfg vs).boundaries.length + 1 := by
  rw [hist_eq_closed]; simp [closed, bucketCounts]

/-- the boundaries of the point are the configured ones (view) or the default list -/
theorem boundaries_eq (k : Kind) (cfg : Option Config) (vs : List Rat) :
    (hist k cfg vs).boundaries = (match cfg with | some c => c.boundaries | none => k.defaultBoundaries) := by
  rw [hist_eq_closed]; cases cfg <;> simp [closed, new]

/-- **every recorded value is counted in exactly the bucket the property names**: for every sorted boundary list,
    `counts[i]` is the number of recorded values `v` with `b[i-1] < v ≤ b[i]` (as `BucketBinarySearch` sees them) -/
theorem counts_eq_spec (k : Kind) (cfg : Option Config) (vs : List Rat) (hs : Sorted (new k cfg).boundaries) :
    (hist k cfg vs).counts = specCounts (new k cfg).boundaries (vs.map k.conv) := by
  rw [hist_eq_closed]
  simp only [closed, bucketCounts, specCounts]
  apply List.map_congr_left
  intro i _
  apply List.countP_congr
  intro v _
  simp only [beq_iff_eq, decide_eq_true_eq]
  rw [bucket_unique hs v i]
  exact eq_comm

/-- floating instruments: `counts[i]` is the number of recorded values `v` with `b[i-1] < v ≤ b[i]` -/
theorem counts_eq_spec_double (cfg : Option Config) (vs : List Rat) (hs : Sorted (new .double cfg).boundaries) :
    (hist .double cfg vs).counts = specCounts (new .double cfg).boundaries vs := by
  have h := counts_eq_spec .double cfg vs hs
  rwa [show vs.map Kind.double.conv = vs from List.map_id'' conv_double vs] at h

theorem countP_bucket_sum (bs cs : List Rat) :
    ((List.range (bs.length + 1)).map fun i => cs.countP fun v => bucket v bs == i).sum = cs.length := by
  induction cs with
  | nil => simp
  | cons c cs ih =>
    have hk := bucket_le_length c bs
    simp only [List.countP_cons, List.length_cons, beq_iff_eq]
    rw [List.sum_map_add]
    rw [ih, List.sum_map_eq_nsmul_single (bucket c bs) _ fun i hi _ => if_neg (Ne.symm hi), List.count_range,
      if_pos (Nat.lt_succ_of_le hk), if_pos rfl]
    rfl

theorem counts_sum_eq_count (k : Kind) (cfg : Option Config) (vs : List Rat) :
    (hist k cfg vs).counts.sum = (hist k cfg vs).count := by
  rw [hist_eq_closed]
  simp only [closed, bucketCounts]
  rw [countP_bucket_sum]; simp

theorem count_eq (k : Kind) (cfg : Option Config) (vs : List Rat) : (hist k cfg vs).count = vs.length := by
  rw [hist_eq_closed]; rfl

theorem sum_eq (k : Kind) (cfg : Option Config) (vs : List Rat) : (hist k cfg vs).sum = vs.sum := by
  rw [hist_eq_closed]; rfl

section fold
variable {α : Type} [LinearOrder α]

theorem foldl_min_le_init (vs : List α) (i : α) : vs.foldl min i ≤ i := by
  rw [List.foldl_min]; exact min_le_left _ _

/-- the fold is the smaller of the sentinel and the list's minimum, hence the latter if the sentinel is no smaller -/
theorem foldl_min_least {vs : List α} {i : α} (hne : vs ≠ []) (hr : ∀ v ∈ vs, v ≤ i) :
    vs.foldl min i ∈ vs ∧ ∀ v ∈ vs, vs.foldl min i ≤ v := by
  rw [List.foldl_min_eq_min hne, min_eq_right (hr _ (List.min_mem hne))]
  exact ⟨List.min_mem hne, fun v hv => List.min_le_of_mem hv⟩

theorem foldl_min_absorb (B : List α) {x m0 : α} (h : x ≤ m0) : min x (B.foldl min m0) = B.foldl min x := by
  rw [← List.foldl_assoc (op := min), min_eq_left h]

end fold

/-- `min` (when enabled, and something was recorded) is a recorded value and no recorded value is smaller.
    Hypothesis: the values do not exceed the initial sentinel (all `int64` / all finite doubles: see below). -/
theorem min_eq (k : Kind) (cfg : Option Config) (vs : List Rat) (hmm : (new k cfg).recordMinMax = true)
    (hne : vs ≠ []) (hr : ∀ v ∈ vs, v ≤ k.minInit) :
    (hist k cfg vs).min ∈ vs ∧ ∀ v ∈ vs, (hist k cfg vs).min ≤ v := by
  rw [hist_eq_closed]
  simp only [closed, hmm, if_true]
  exact foldl_min_least hne hr

/-- `max` (when enabled, and something was recorded) is a recorded value and no recorded value is larger. -/
theorem max_eq (k : Kind) (cfg : Option Config) (vs : List Rat) (hmm : (new k cfg).recordMinMax = true)
    (hne : vs ≠ []) (hr : ∀ v ∈ vs, k.maxInit ≤ v) :
    (hist k cfg vs).max ∈ vs ∧ ∀ v ∈ vs, v ≤ (hist k cfg vs).max := by
  rw [hist_eq_closed]
  simp only [closed, hmm, if_true]
  -- `max` and `≥` on `Rat` are `min` and `≤` of the order dual
  exact foldl_min_least (α := Ratᵒᵈ) hne hr

/-! ### the sentinels and defaults in the source (generated fragment `Gen/Histogram.lean`) -/

theorem doubleMinInit_eq : Gen.histDoubleMinInit = Gen.dblMax := by decide +kernel
/-- D07: `numeric_limits<double>::lowest()`, not `min()` -/
theorem doubleMaxInit_eq : Gen.histDoubleMaxInit = -Gen.dblMax := by decide +kernel
theorem longMinInit_eq : Gen.histLongMinInit = ((2 ^ 63 - 1 : Int) : Rat) := by decide +kernel
theorem longMaxInit_eq : Gen.histLongMaxInit = ((-(2 ^ 63) : Int) : Rat) := by decide +kernel

/-- the OpenTelemetry default explicit bucket boundaries -/
def specDefaultBoundaries : List Rat := [0, 5, 10, 25, 50, 75, 100, 250, 500, 750, 1000, 2500, 5000, 7500, 10000]

theorem long_default_boundaries : Kind.long.defaultBoundaries = specDefaultBoundaries := by decide +kernel
theorem double_default_boundaries : Kind.double.defaultBoundaries = specDefaultBoundaries := by decide +kernel
theorem default_boundaries_sorted (k : Kind) : Sorted k.defaultBoundaries := by
  have h : Sorted specDefaultBoundaries := by decide +kernel
  cases k
  · rwa [long_default_boundaries]
  · rwa [double_default_boundaries]
theorem recordMinMax_defaults (k : Kind) : k.recordMinMaxDefault = true ∧ Gen.histConfigRecordMinMaxDefault = true := by
  cases k <;> decide

/-- a rational is (the value of) a finite double -/
def IsDouble (q : Rat) : Prop := ∃ bits, decodeDouble bits = some q

example : IsDouble 0 := ⟨0, by decide +kernel⟩
example : IsDouble (1 / 2) := ⟨0x3fe0000000000000, by decide +kernel⟩
example : IsDouble Gen.dblMax := ⟨0x7fefffffffffffff, by decide +kernel⟩

/-- min and max for the floating kind: for every non-empty list of values in the finite double range
    (`isDouble_range`: every finite double is) -/
theorem min_max_double (cfg : Option Config) (vs : List Rat) (hmm : (new .double cfg).recordMinMax = true) (hne : vs ≠ [])
    (hr : ∀ v ∈ vs, -Gen.dblMax ≤ v ∧ v ≤ Gen.dblMax) :
    ((hist .double cfg vs).min ∈ vs ∧ ∀ v ∈ vs, (hist .double cfg vs).min ≤ v) ∧
    ((hist .double cfg vs).max ∈ vs ∧ ∀ v ∈ vs, v ≤ (hist .double cfg vs).max) := by
  refine ⟨min_eq .double cfg vs hmm hne ?_, max_eq .double cfg vs hmm hne ?_⟩
  · intro v hv; show v ≤ Gen.histDoubleMinInit; rw [doubleMinInit_eq]; exact (hr v hv).2
  · intro v hv; show Gen.histDoubleMaxInit ≤ v; rw [doubleMaxInit_eq]; exact (hr v hv).1

/-- D07 in the model: a histogram that only saw 0.0 reports max = 0 (not `numeric_limits<double>::min()`) -/
example : (hist .double none [0]).max = 0 ∧ (hist .double none [0]).min = 0 := by decide +kernel

theorem long_in_range (i : Int) (h : -(2 ^ 63) ≤ i ∧ i < 2 ^ 63) :
    Kind.long.maxInit ≤ (i : Rat) ∧ (i : Rat) ≤ Kind.long.minInit := by
  show Gen.histLongMaxInit ≤ _ ∧ _ ≤ Gen.histLongMinInit
  rw [longMaxInit_eq, longMinInit_eq]
  exact ⟨Int.cast_le.mpr h.1, Int.cast_le.mpr (Int.le_sub_one_of_lt h.2)⟩

/-- `int64_t` values as the model sees them -/
def longVals (is : List Int) : List Rat := List.map (fun (i : Int) => (Int.cast i : Rat)) is

/-- min and max for the integer kind: for every non-empty list of `int64_t` values -/
theorem min_max_long (cfg : Option Config) (is : List Int) (hmm : (new .long cfg).recordMinMax = true) (hne : is ≠ [])
    (hr : ∀ i ∈ is, -(2 ^ 63) ≤ i ∧ i < 2 ^ 63) :
    ((hist .long cfg (longVals is)).min ∈ longVals is ∧ ∀ v ∈ longVals is, (hist .long cfg (longVals is)).min ≤ v) ∧
    ((hist .long cfg (longVals is)).max ∈ longVals is ∧ ∀ v ∈ longVals is, v ≤ (hist .long cfg (longVals is)).max) := by
  have hne' : longVals is ≠ [] := fun h => hne (List.map_eq_nil_iff.mp h)
  have hin : ∀ v ∈ longVals is, Kind.long.maxInit ≤ v ∧ v ≤ Kind.long.minInit := fun v hv => by
    obtain ⟨i, hi, rfl⟩ := List.mem_map.mp hv
    exact long_in_range i (hr i hi)
  exact ⟨min_eq .long cfg _ hmm hne' fun v hv => (hin v hv).2, max_eq .long cfg _ hmm hne' fun v hv => (hin v hv).1⟩

example : (hist .long none (longVals [3, 0, 12])).min = 0 ∧ (hist .long none (longVals [3, 0, 12])).max = 12 := by decide +kernel

/-- `BucketBoundaryLessThan(boundary, value)` decides `boundary < value` exactly, for every `double` boundary and every
    `int64_t` value: the content of the repair -/
theorem boundaryLess_iff (b : Rat) (i : Int) (hr : -(2 ^ 63) ≤ i ∧ i < 2 ^ 63) :
    boundaryLess b i = true ↔ b < (i : Rat) := by
  have hhi : Gen.histLongCmpHi = (((2 ^ 63 : Int)) : Rat) := by decide +kernel
  have hlo : Gen.histLongCmpLo = (((-(2 ^ 63) : Int)) : Rat) := by decide +kernel
  unfold boundaryLess
  by_cases h1 : b < Gen.histLongCmpHi
  · by_cases h2 : b < Gen.histLongCmpLo
    · simp only [h1, h2, not_true_eq_false, if_false, if_true, true_iff]
      have : Gen.histLongCmpLo ≤ (i : Rat) := by
        rw [hlo]; exact Rat.intCast_le_intCast.mpr hr.1
      exact lt_of_lt_of_le h2 this
    · simp only [h1, h2, not_true_eq_false, if_false, decide_eq_true_eq]
      exact Rat.floor_lt_iff
  · simp only [h1, not_false_eq_true, if_true, Bool.false_eq_true, false_iff]
    intro hlt
    apply h1
    have : (i : Rat) < Gen.histLongCmpHi := by
      rw [hhi]; exact Rat.intCast_lt_intCast.mpr hr.2
    exact lt_trans hlt this

/-- … so the `int64_t` overload of `BucketBinarySearch` finds the bucket of the exact value -/
theorem bucketLong_eq_bucket (i : Int) (hr : -(2 ^ 63) ≤ i ∧ i < 2 ^ 63) (bs : List Rat) :
    bucketLong i bs = bucket (i : Rat) bs := by
  induction bs with
  | nil => rfl
  | cons b bs ih =>
    unfold bucketLong bucket
    by_cases h : b < (i : Rat)
    · rw [if_pos ((boundaryLess_iff b i hr).mpr h), if_pos h, ih]
    · have : ¬ boundaryLess b i = true := fun hb => h ((boundaryLess_iff b i hr).mp hb)
      rw [if_neg this, if_neg h]

/-- the code-level `Aggregate(int64_t)` is the model's `aggregate .long` on every `int64_t` value -/
theorem aggregateLongC_eq (p : Point) (i : Int) (hr : -(2 ^ 63) ≤ i ∧ i < 2 ^ 63) :
    aggregateLongC p i = aggregate .long p (i : Rat) := by
  unfold aggregateLongC aggregate
  rw [bucketLong_eq_bucket i hr, conv_long]

theorem histLongC_eq (cfg : Option Config) (is : List Int) (hr : ∀ i ∈ is, -(2 ^ 63) ≤ i ∧ i < 2 ^ 63) :
    histLongC cfg is = hist .long cfg (longVals is) := by
  unfold histLongC hist longVals
  generalize new Kind.long cfg = p0
  induction is generalizing p0 with
  | nil => rfl
  | cons i is ih =>
    simp only [List.foldl_cons, List.map_cons]
    rw [aggregateLongC_eq p0 i (hr i (by simp))]
    exact ih (fun j hj => hr j (by simp [hj])) _

/-- the integer histogram obeys the bucket rule exactly, for every `int64_t` value (also beyond 2^53) -/
theorem bucket_spec_long {bs : List Rat} (hs : Sorted bs) (i : Int) (hr : -(2 ^ 63) ≤ i ∧ i < 2 ^ 63) :
    InBucket bs (bucketLong i bs) (i : Rat) := by
  rw [bucketLong_eq_bucket i hr]; exact bucket_inBucket hs _

/-- integer instruments: `counts[i]` is the number of recorded values `v` with `b[i-1] < v ≤ b[i]`, for every list of
    `int64_t` values, through the code-level `Aggregate(int64_t)` -/
theorem counts_eq_spec_long (cfg : Option Config) (is : List Int) (hs : Sorted (new .long cfg).boundaries)
    (hr : ∀ i ∈ is, -(2 ^ 63) ≤ i ∧ i < 2 ^ 63) :
    (histLongC cfg is).counts = specCounts (new .long cfg).boundaries (longVals is) := by
  rw [histLongC_eq cfg is hr]
  have h := counts_eq_spec .long cfg (longVals is) hs
  rwa [show (longVals is).map Kind.long.conv = longVals is from List.map_id'' conv_long _] at h

example : (-(2 ^ 63) ≤ (2 ^ 60 + 19 : Int) ∧ (2 ^ 60 + 19 : Int) < 2 ^ 63) := by decide

/-- beyond 2^53: boundaries {2^60}, values {2^60+19, 2^60} give counts [1,1] -/
example : (histLongC (some { boundaries := [((2 ^ 60 : Nat) : Rat)], recordMinMax := true }) [2 ^ 60 + 19, 2 ^ 60]).counts = [1, 1] := by
  decide +kernel

/-- a comparison through `int64_t → double` would not obey the bucket rule: 2^53+1 rounds to 2^53 and lands in the
    bucket below the boundary 2^53 -/
theorem bucket_long_aswas_witness :
    ¬ InBucket [((2 ^ 53 : Nat) : Rat)] (bucket (((roundToDouble (2 ^ 53 + 1 : Int)) : Int) : Rat) [((2 ^ 53 : Nat) : Rat)])
        ((2 ^ 53 + 1 : Int) : Rat) := by
  have hb : bucket (((roundToDouble (2 ^ 53 + 1 : Int)) : Int) : Rat) [((2 ^ 53 : Nat) : Rat)] = 0 := by decide +kernel
  rw [hb]
  rintro ⟨_, _, h3⟩
  have := h3 (by simp)
  revert this
  decide +kernel

/-- **`Merge` is a homomorphism**: merging the points of two intervals gives exactly the point that recording all
    their values into one histogram gives — every field, for every boundary list (sorted or not), both kinds, with
    and without min/max. -/
theorem merge_hom (k : Kind) (cfg : Option Config) (A B : List Rat) :
    merge k (hist k cfg A) (hist k cfg B) = hist k cfg (A ++ B) := by
  simp only [hist_eq_closed]
  simp only [merge, closed, bucketCounts, Bool.and_self, Point.mk.injEq, true_and, List.map_append, List.countP_append,
    List.length_append, List.sum_append, List.foldl_append, cmin_eq_min, cmax_eq_max, and_true]
  -- boundaries, count, sum and the flag agree by the lemmas above; left: counts, min, max
  refine ⟨?_, ?_, ?_⟩
  · apply List.ext_getElem
    · simp
    · intro j h1 h2; simp
  · split
    · exact foldl_min_absorb B (foldl_min_le_init A _)
    · rfl
  · split
    · -- `max` is the `min` of the dual order
      exact foldl_min_absorb (α := Ratᵒᵈ) B (foldl_min_le_init (α := Ratᵒᵈ) A _)
    · rfl

/-- the first merge the temporal storage performs: a fresh aggregation merged with an interval's point -/
theorem merge_new_left (k : Kind) (cfg : Option Config) (B : List Rat) : merge k (new k cfg) (hist k cfg B) = hist k cfg B := by
  have := merge_hom k cfg [] B
  simpa [hist] using this

/-- any number of intervals, merged left to right (what cumulative readers and multi-reader deltas see) -/
theorem mergeL_hom (k : Kind) (cfg : Option Config) (Bs : List (List Rat)) :
    ∀ A, mergeL k (hist k cfg A) (Bs.map (hist k cfg)) = hist k cfg (A ++ Bs.flatten) := by
  induction Bs with
  | nil => intro A; simp [mergeL]
  | cons B Bs ih =>
    intro A
    simp only [mergeL, List.map_cons, List.foldl_cons, List.flatten_cons] at *
    rw [merge_hom, ih, List.append_assoc]

/-- … or right-nested -/
theorem mergeR_hom (k : Kind) (cfg : Option Config) (Bs : List (List Rat)) :
    ∀ A, mergeR k (hist k cfg A) (Bs.map (hist k cfg)) = hist k cfg (A ++ Bs.flatten) := by
  induction Bs with
  | nil => intro A; simp [mergeR]
  | cons B Bs ih =>
    intro A
    simp only [List.map_cons, mergeR, List.flatten_cons]
    rw [ih, merge_hom]

example : mergeL .double (hist .double none [1, 7]) [hist .double none [], hist .double none [5, 20000]] =
    hist .double none [1, 7, 5, 20000] := by
  simpa using mergeL_hom .double none [[], [5, 20000]] [1, 7]

/-- the point depends on the multiset of recorded values only (the order of recording, and hence the unspecified
    enumeration order of the hash tables that are merged, does not matter) -/
theorem hist_perm (k : Kind) (cfg : Option Config) {A B : List Rat} (h : A.Perm B) : hist k cfg A = hist k cfg B := by
  simp only [hist_eq_closed, closed, bucketCounts]
  have hl : A.length = B.length := h.length_eq
  have hsum : A.sum = B.sum := h.sum_eq
  -- `min` and `max` are associative and commutative
  have hmin : ∀ i, A.foldl min i = B.foldl min i := fun _ => h.foldl_op_eq (op := min)
  have hmax : ∀ i, A.foldl max i = B.foldl max i := fun _ => h.foldl_op_eq (op := max)
  have hc : ∀ p : Rat → Bool, (A.map k.conv).countP p = (B.map k.conv).countP p := fun p => (h.map _).countP_eq p
  simp only [hl, hsum, hmin, hmax, hc]

theorem isDouble_range {q : Rat} (h : IsDouble q) : -Gen.dblMax ≤ q ∧ q ≤ Gen.dblMax := by
  obtain ⟨bits, hb⟩ := h
  have hD : Gen.dblMax = (((2 ^ 53 - 1) * 2 ^ 971 : Nat) : Rat) := by decide +kernel
  -- every magnitude `decodeDouble` produces is a natural number below `2^53` times a power of two of at most `2^971`,
  -- possibly divided by a power of two
  have hle : ∀ x k : Nat, x < 2 ^ 53 → k ≤ 971 → ((x * 2 ^ k : Nat) : Rat) ≤ Gen.dblMax := fun x k hx hk => by
    rw [hD]; exact Nat.cast_le.mpr (Nat.mul_le_mul (Nat.le_sub_one_of_lt hx) (Nat.pow_le_pow_right (by decide) hk))
  have hdiv : ∀ x j : Nat, x < 2 ^ 53 → ((x : Nat) : Rat) / ((2 ^ j : Nat) : Rat) ≤ Gen.dblMax := fun x j hx =>
    le_trans (div_le_self (Nat.cast_nonneg _) (Nat.one_le_cast.mpr Nat.one_le_two_pow))
      (by simpa only [Nat.pow_zero, Nat.mul_one] using hle x 0 hx (Nat.zero_le _))
  have hf : bits % 2 ^ 52 < 2 ^ 52 := Nat.mod_lt _ (by decide)
  have he : bits / 2 ^ 52 % 2048 < 2048 := Nat.mod_lt _ (by decide)
  unfold decodeDouble at hb
  generalize bits % 2 ^ 52 = f at hb hf
  generalize bits / 2 ^ 52 % 2048 = e at hb he
  simp only at hb  -- the `let`s of `decodeDouble`
  by_cases h47 : e = 2047
  · rw [if_pos h47] at hb; exact nomatch hb
  · rw [if_neg h47] at hb
    have hmag : ∀ m : Rat, 0 ≤ m → m ≤ Gen.dblMax →
        -Gen.dblMax ≤ (if bits / 2 ^ 63 % 2 = 1 then -m else m) ∧ (if bits / 2 ^ 63 % 2 = 1 then -m else m) ≤ Gen.dblMax := by
      intro m h0 h1
      split
      · exact ⟨neg_le_neg h1, le_trans (neg_nonpos.mpr h0) (le_trans h0 h1)⟩
      · exact ⟨le_trans (neg_nonpos.mpr (le_trans h0 h1)) h0, h1⟩
    rw [← Option.some.inj hb]
    by_cases h0 : e = 0
    · rw [if_pos h0]
      exact hmag _ (div_nonneg (Nat.cast_nonneg _) (Nat.cast_nonneg _)) (hdiv f 1074 (by omega))
    · rw [if_neg h0]
      by_cases h75 : 1075 ≤ e
      · rw [if_pos h75]
        exact hmag _ (Nat.cast_nonneg _) (hle (2 ^ 52 + f) (e - 1075) (by omega) (by omega))
      · rw [if_neg h75]
        exact hmag _ (div_nonneg (Nat.cast_nonneg _) (Nat.cast_nonneg _)) (hdiv (2 ^ 52 + f) (1075 - e) (by omega))

/-! ## through the storage: collection cycles and readers

The series storage (`Otel.Series`, the model behind C08) is generic in the aggregation.  Instantiated with the
histogram aggregation, its conservation theorem says that — for every history of `Record`s and `Collect`s, any number
of delta and cumulative readers, any cardinality limit — the points handed to a reader together account for exactly
the values recorded in that reader's interval (delta) or so far (cumulative): their `count`s add up to the number of
those values and their `sum`s to the sum of those values.  Per series and below the limit the whole point is `hist`
of its values (`storage_series_point`): the storage only ever applies `aggregate` and `merge`, `hist` is a
homomorphism from lists of values (`histHom`, by `merge_hom`), and the storage is natural in the aggregation. -/

open Otel.Series in
def countMeasure (k : Kind) (cfg : Option Config) : Measure (histAgg k cfg) Nat :=
  { μ := fun p => p.count, w := fun _ => 1, new := rfl, add := fun _ _ => rfl, merge := fun _ _ => rfl }

open Otel.Series in
def sumMeasure (k : Kind) (cfg : Option Config) : Measure (histAgg k cfg) Rat :=
  { μ := fun p => p.sum, w := fun v => v, new := rfl, add := fun _ _ => rfl, merge := fun _ _ => rfl }

open Otel.Series in
theorem storage_conserves_count {K : Type} [DecidableEq K] (k : Kind) (cfg : Option Config) (ovf : K) (limit : Nat)
    (temps : List Temporality) (iter : List (K × Point) → List (K × Point)) (hiter : ∀ l, (iter l).Perm l)
    (ops : List (Op K Rat)) (hops : ∀ r, Op.collect r ∈ ops → r < temps.length) :
    let c : Cfg K Point Rat := { ag := histAgg k cfg, ovf := ovf, limit := limit, temps := temps, iter := iter }
    ((Store.run c (Store.init c) ops).2.map fun o => (o.1, outTotal (fun p : Point => p.count) o.2)) =
      specTotals c (fun _ _ => 1) (fun _ => 0) 0 ops := by
  intro c
  exact run_totals_init c (countMeasure k cfg) hiter ops hops

open Otel.Series in
theorem storage_conserves_sum {K : Type} [DecidableEq K] (k : Kind) (cfg : Option Config) (ovf : K) (limit : Nat)
    (temps : List Temporality) (iter : List (K × Point) → List (K × Point)) (hiter : ∀ l, (iter l).Perm l)
    (ops : List (Op K Rat)) (hops : ∀ r, Op.collect r ∈ ops → r < temps.length) :
    let c : Cfg K Point Rat := { ag := histAgg k cfg, ovf := ovf, limit := limit, temps := temps, iter := iter }
    ((Store.run c (Store.init c) ops).2.map fun o => (o.1, outTotal (fun p : Point => p.sum) o.2)) =
      specTotals c (fun _ v => v) (fun _ => 0) 0 ops := by
  intro c
  exact run_totals_init c (sumMeasure k cfg) hiter ops hops

open Otel.Series in
/-- per series, below the cardinality limit: the point reported for attribute set `k0` has as `count` the number of
    values recorded with `k0` in the reader's interval (delta) / so far (cumulative), and as `sum` their sum — for every
    history of collection cycles and readers.  (For its buckets, min and max see `storage_series_point`.) -/
theorem storage_series_count_and_sum {K : Type} [DecidableEq K] (k : Kind) (cfg : Option Config) (ovf : K) (limit : Nat)
    (temps : List Temporality) (iter : List (K × Point) → List (K × Point)) (hiter : ∀ l, (iter l).Perm l)
    (ops : List (Op K Rat)) (hops : ∀ r, Op.collect r ∈ ops → r < temps.length) (hroom : recordCount ops + 1 < limit) (k0 : K) :
    let c : Cfg K Point Rat := { ag := histAgg k cfg, ovf := ovf, limit := limit, temps := temps, iter := iter }
    ((Store.run c (Store.init c) ops).2.map fun o => (o.1, outKey k0 (fun p : Point => p.count) o.2)) =
      specTotals c (fun k' _ => if k' = k0 then 1 else 0) (fun _ => 0) 0 ops ∧
    ((Store.run c (Store.init c) ops).2.map fun o => (o.1, outKey k0 (fun p : Point => p.sum) o.2)) =
      specTotals c (fun k' v => if k' = k0 then v else 0) (fun _ => 0) 0 ops := by
  intro c
  exact ⟨run_key_totals_init k0 c (countMeasure k cfg) hiter ops hops hroom,
    run_key_totals_init k0 c (sumMeasure k cfg) hiter ops hops hroom⟩

open Otel.Series in
/-- `hist` is a homomorphism from the free aggregation (lists of values) to the histogram aggregation -/
theorem histHom (k : Kind) (cfg : Option Config) : AggHom (freeAgg : Agg Rat (List Rat)) (histAgg k cfg) (hist k cfg) :=
  { new := rfl
    add := fun a v => by simp [freeAgg, histAgg, hist, List.foldl_append]
    merge := fun a b => (merge_hom k cfg a b).symm }

open Otel.Series in
/-- **the whole point, per series, through the storage** (below the cardinality limit): for every history of `Record`s
    and `Collect`s, any number of delta and cumulative readers and any enumeration order of the hash tables, the point
    reported for attribute set `k0` at the `i`-th collect is `hist` of the values recorded with `k0` in that reader's
    interval (delta) / so far (cumulative) — "the point that recording all their values into one histogram would give".
    The values are given as the multiset the specification `specTotals` accumulates; by `hist_perm` any listing of it
    gives the same point.  (`iterL` is the enumeration order acting on the value-list tables of the free store; it
    must be the same reordering as `iterP`, i.e. the order may depend on keys and positions, not on the values.) -/
theorem storage_series_point {K : Type} [DecidableEq K] (k : Kind) (cfg : Option Config) (ovf : K) (limit : Nat)
    (temps : List Temporality) (iterP : List (K × Point) → List (K × Point)) (iterL : List (K × List Rat) → List (K × List Rat))
    (hiter : ∀ l, (iterL l).Perm l) (hcompat : ∀ es, iterP (mapE (hist k cfg) es) = mapE (hist k cfg) (iterL es))
    (ops : List (Op K Rat)) (hops : ∀ r, Op.collect r ∈ ops → r < temps.length) (hroom : recordCount ops + 1 < limit) (k0 : K) :
    let cP : Cfg K Point Rat := { ag := histAgg k cfg, ovf := ovf, limit := limit, temps := temps, iter := iterP }
    let spec := specTotals cP (fun k' v => if k' = k0 then ({v} : Multiset Rat) else 0) (fun _ => 0) 0 ops
    ∀ (i r : Nat) (es : List (K × Point)), (Store.run cP (Store.init cP) ops).2[i]? = some (r, some es) →
      ∀ p, lookupKey k0 es = some p →
        ∃ m, spec[i]? = some (r, m) ∧ ∀ l : List Rat, (l : Multiset Rat) = m → p = hist k cfg l := by
  intro cP spec i r es hi p hp
  let cL : Cfg K (List Rat) Rat := { ag := freeAgg, ovf := ovf, limit := limit, temps := temps, iter := iterL }
  have hc : CfgHom cL cP (hist k cfg) := { ag := histHom k cfg, ovf := rfl, limit := rfl, temps := rfl, iter := hcompat }
  -- the run with histograms is the image of the run with value lists
  have hrun := run_map hc ops (Store.init cL)
  rw [← init_map hc] at hrun
  rw [hrun, List.getElem?_map] at hi
  obtain ⟨⟨r', oL⟩, hL, hi⟩ := Option.map_eq_some_iff.mp hi
  obtain ⟨rfl, hes⟩ := Prod.mk.inj hi
  obtain ⟨esL, rfl, rfl⟩ := Option.map_eq_some_iff.mp hes
  rw [lookupKey_mapE] at hp
  obtain ⟨l0, hl, rfl⟩ := Option.map_eq_some_iff.mp hp
  refine ⟨(l0 : Multiset Rat), ?_, fun l hlm => hist_perm k cfg (Multiset.coe_eq_coe.mp hlm.symm)⟩
  -- per key, the value lists are what the specification says
  have hkey := congrArg (·[i]?) (run_key_totals_init k0 cL freeMeasure hiter ops hops hroom)
  simp only [List.getElem?_map, hL, Option.map_some] at hkey
  have hnd := run_nodup cL ops (Store.init cL) List.nodup_nil r' esL (List.mem_of_getElem? hL)
  show (specTotals cP _ _ _ ops)[i]? = _
  rw [specTotals_temps cL cP rfl]
  refine hkey.symm.trans ?_
  show some (r', totK k0 freeMeasure.μ esL) = _
  rw [totK_of_nodup k0 freeMeasure.μ esL hnd, hl]; rfl

open Otel.Series in
/-- the hypotheses on the enumeration orders are satisfiable: insertion order, reverse order, … -/
example (k : Kind) (cfg : Option Config) :
    (∀ l : List (Nat × List Rat), (id l).Perm l) ∧ (∀ es : List (Nat × List Rat), id (mapE (hist k cfg) es) = mapE (hist k cfg) (id es)) :=
  ⟨fun _ => List.Perm.refl _, fun _ => rfl⟩

open Otel.Series in
example (k : Kind) (cfg : Option Config) :
    (∀ l : List (Nat × List Rat), l.reverse.Perm l) ∧
    (∀ es : List (Nat × List Rat), (mapE (hist k cfg) es).reverse = mapE (hist k cfg) es.reverse) :=
  ⟨fun l => List.reverse_perm l, fun es => by simp [mapE, List.map_reverse]⟩

end Otel.C07
