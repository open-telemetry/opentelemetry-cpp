import OtelVerif.Model.Ring
/-! # The batch processors' protocol (`batch_span_processor.cc`, `batch_log_record_processor.cc`)

A small-step transition system at the granularity of the shared-variable accesses that carry the protocol:
`is_shutdown`, `force_flush_pending_sequence` (`pending`), `force_flush_notified_sequence` (`notified`), the queue
counters (`head` = records committed, `tail` = records taken by the worker) and the exporter calls.  The lock-free
queue itself is abstracted to its two counters: a producer's successful head CAS is `pStep` at `.add`, the worker's
`tail_ += n` is `wStep` at `.consume` — C11 proves that the queue behind those counters is a FIFO that hands every committed
record out exactly once; here the protocol on top is modelled: any number of producers, `ForceFlush` callers and
`Shutdown` callers, one worker.

The worker mirrors `DoBackgroundWork` / `Export` / `NotifyCompletion` / `DrainQueue` **after the D01/D23 repair**
(one size snapshot per iteration, batches always capped, a flush ticket published only when everything that was queued
when it was first seen has been exported).  Wake-ups (`cv` notifications, timer expiry, spurious) are nondeterministic:
`wWake` is always enabled when the worker is idle, and a waiting `ForceFlush` caller may observe `notified` at any time
and return whenever it likes (timeouts), which over-approximates every `schedule_delay`, timeout value and latency. -/
namespace Otel.Batch
open Otel.Ring (upd upd_same upd_other)

inductive Ret where | loop | drain deriving DecidableEq, Repr

/-- worker program counter; `T R` = `flush_ticket`, `flush_remaining` of the current `Export()` call -/
inductive WPc where
  | idle                                         -- in `cv.wait_for` / evaluating its predicate
  | chk                                          -- woke up: about to load `is_shutdown`
  | ticket (r : Ret) (T R : Nat)                 -- `Export()` loop head: about to load `pending`
  | size (r : Ret) (n T R : Nat)                 -- about to take the size snapshot
  | consume (r : Ret) (n T R num : Nat)          -- about to `tail_ += num`
  | exportB (r : Ret) (n T R num : Nat)          -- slots cleared, about to call `exporter_->Export`
  | exportE (r : Ret) (n T R num : Nat)          -- inside `exporter_->Export`
  | nChk (r : Ret) (n : Nat) (last : Bool) (T R : Nat)     -- `NotifyCompletion(n)`: about to load `notified`
  | flushB (r : Ret) (n : Nat) (last : Bool) (T R : Nat)   -- about to call `exporter->ForceFlush`
  | flushE (r : Ret) (n : Nat) (last : Bool) (T R : Nat)   -- inside it
  | pubLd (r : Ret) (n : Nat) (last : Bool) (T R : Nat)    -- about to reload `notified`
  | pubCas (r : Ret) (n : Nat) (last : Bool) (T R v : Nat) -- about to CAS `notified` from `v` to `n`
  | dEmpty                                       -- `DrainQueue`: about to test `buffer_.empty()`
  | dPend                                        -- … about to load `pending`
  | dNot (pn : Nat)                              -- … about to load `notified`
  | done                                         -- the worker thread has finished
  deriving DecidableEq, Repr

/-- `ForceFlush` caller; `bh` = ghost: `head` when the call began -/
inductive FPc where
  | idle | chk (bh : Nat) | ticket (bh : Nat) | wait (bh cur : Nat) (seen : Option Nat) | ret (bh : Nat) (ok : Bool)
  deriving DecidableEq, Repr

/-- `Shutdown` caller (also the destructor path); `a` = `already_shutdown` -/
inductive SPc where
  | idle | begin | locked | joinW (a : Bool) | expB | expE | unlockP | ret
  deriving DecidableEq, Repr

/-- producer (`OnEnd` / `OnEmit`); `e0` = ghost: `exported` when the `Add` began -/
inductive PPc where
  | idle | chk | add (e0 : Nat) | fin | noop
  deriving DecidableEq, Repr

structure St where
  maxQ : Nat
  maxB : Nat
  head : Nat
  tail : Nat
  exported : Nat              -- records handed to `exporter.Export` so far (counted when the call returns)
  isShutdown : Bool
  pending : Nat
  notified : Nat
  wpc : WPc
  joined : Bool               -- `worker_thread_` has been joined (no longer joinable)
  fl : Nat → FPc
  sd : Nat → SPc
  pr : Nat → PPc
  sdLock : Option Nat         -- holder of `shutdown_m`
  -- ghosts
  sdHead : Nat                -- `head` when `is_shutdown` was set
  tickHead : Nat → Nat        -- `head` when ticket `t ≥ 1` was issued
  flushedUpTo : Nat           -- `exported` at the last completed `exporter.ForceFlush`
  inExport : Nat              -- `exporter.Export` calls in flight
  batches : List Nat          -- sizes of the batches delivered, latest first
  expShutdowns : Nat          -- `exporter.Shutdown` calls begun
  sdReturned : Bool           -- some `Shutdown` call has returned
  lateCalls : Nat             -- exporter calls begun after some `Shutdown` had returned
  begun : Nat                 -- `Add` calls begun (producers that passed the `is_shutdown` test)
  dropped : Nat

inductive Act where
  | wWake | wStep
  | fStep (f : Nat) (ret : Bool)     -- `ret`: in `wait`, return now (with what was last observed) instead of observing again
  | sStep (i : Nat)
  | pStep (p : Nat) (drop : Bool)    -- `drop`: in `add`, the queue reported full
  deriving Repr

def next (r : Ret) (last : Bool) (T R : Nat) : WPc :=
  if last then (match r with | .loop => .idle | .drain => .dEmpty) else .ticket r T R

def late (s : St) : Nat := if s.sdReturned then s.lateCalls + 1 else s.lateCalls

def wStep (s : St) : Option St :=
  match s.wpc with
  | .idle => none
  | .chk => some { s with wpc := if s.isShutdown then .dEmpty else .ticket .loop 0 0 }
  | .ticket r T R => some { s with wpc := .size r s.pending T R }
  | .size r n T R =>
      let S := s.head - s.tail
      let T' := if n > T then n else T
      let R' := if n > T then S else R
      let num := if S ≥ s.maxB then s.maxB else S
      if num = 0 then some { s with wpc := .nChk r n true T' R' }
      else some { s with wpc := .consume r n T' R' num }
  | .consume r n T R num => some { s with tail := s.tail + num, wpc := .exportB r n T R num }
  | .exportB r n T R num => some { s with inExport := s.inExport + 1, lateCalls := late s, wpc := .exportE r n T R num }
  | .exportE r n T R num =>
      some { s with exported := s.exported + num, batches := num :: s.batches, inExport := s.inExport - 1, wpc := if R - num = 0 then .nChk r n false T 0 else .ticket r T (R - num) }
  | .nChk r n last T R =>
      if n > s.notified then some { s with wpc := .flushB r n last T R } else some { s with wpc := next r last T R }
  | .flushB r n last T R => some { s with lateCalls := late s, wpc := .flushE r n last T R }
  | .flushE r n last T R => some { s with flushedUpTo := s.exported, wpc := .pubLd r n last T R }
  | .pubLd r n last T R =>
      if n > s.notified then some { s with wpc := .pubCas r n last T R s.notified } else some { s with wpc := next r last T R }
  | .pubCas r n last T R v =>
      if s.notified = v then some { s with notified := n }       -- success; `expected` keeps `v`, the loop runs once more
      else if n > s.notified then some { s with wpc := .pubCas r n last T R s.notified }
      else some { s with wpc := next r last T R }
  | .dEmpty => if s.head = s.tail then some { s with wpc := .dPend } else some { s with wpc := .ticket .drain 0 0 }
  | .dPend => some { s with wpc := .dNot s.pending }
  | .dNot pn => if pn ≤ s.notified then some { s with wpc := .done } else some { s with wpc := .ticket .drain 0 0 }
  | .done => none

def fStep (s : St) (f : Nat) (ret : Bool) : Option St :=
  match s.fl f with
  | .idle => some { s with fl := upd s.fl f (.chk s.head) }
  | .chk bh => if s.isShutdown then some { s with fl := upd s.fl f (.ret bh false) }
               else some { s with fl := upd s.fl f (.ticket bh) }
  | .ticket bh => some { s with pending := s.pending + 1, tickHead := upd s.tickHead (s.pending + 1) s.head, fl := upd s.fl f (.wait bh (s.pending + 1) none) }
  | .wait bh cur seen =>
      if ret then (match seen with
        | some v => some { s with fl := upd s.fl f (.ret bh (decide (v ≥ cur))) }
        | none => none)
      else some { s with fl := upd s.fl f (.wait bh cur (some s.notified)) }
  | .ret _ _ => none

def sStep (s : St) (i : Nat) : Option St :=
  match s.sd i with
  | .idle => some { s with sd := upd s.sd i .begin }
  | .begin => if s.sdLock = none then some { s with sdLock := some i, sd := upd s.sd i .locked } else none
  | .locked =>
      some { s with isShutdown := true, sdHead := if s.isShutdown then s.sdHead else s.head, sd := upd s.sd i (if s.joined then (if s.isShutdown then .unlockP else .expB) else .joinW s.isShutdown) }
  | .joinW a => if s.wpc = .done then some { s with joined := true, sd := upd s.sd i (if a then .unlockP else .expB) } else none
  | .expB => some { s with expShutdowns := s.expShutdowns + 1, lateCalls := late s, sd := upd s.sd i .expE }
  | .expE => some { s with sd := upd s.sd i .unlockP }
  | .unlockP => some { s with sdLock := none, sdReturned := true, sd := upd s.sd i .ret }
  | .ret => none

/-- a failing `Add` is justified by C11's `add_fails_only_when_full`: the `Add`s begun before it returns, itself
    excluded, minus what had been exported (hence consumed and cleared) when it began, fill the queue -/
def dropGuard (s : St) (e0 : Nat) : Prop := s.begun - 1 - e0 ≥ s.maxQ
instance (s : St) (e0 : Nat) : Decidable (dropGuard s e0) := by unfold dropGuard; exact inferInstance

def pStep (s : St) (p : Nat) (drop : Bool) : Option St :=
  match s.pr p with
  | .idle => some { s with pr := upd s.pr p .chk }
  | .chk => if s.isShutdown then some { s with pr := upd s.pr p .noop }
            else some { s with begun := s.begun + 1, pr := upd s.pr p (.add s.exported) }
  | .add e0 =>
      if drop then (if dropGuard s e0 then some { s with dropped := s.dropped + 1, pr := upd s.pr p .fin } else none)
      else if s.head - s.tail < s.maxQ then some { s with head := s.head + 1, pr := upd s.pr p .fin } else none
  | .fin => some { s with pr := upd s.pr p .idle }
  | .noop => some { s with pr := upd s.pr p .idle }

def step (s : St) : Act → Option St
  | .wWake => if s.wpc = .idle then some { s with wpc := .chk } else none
  | .wStep => wStep s
  | .fStep f r => fStep s f r
  | .sStep i => sStep s i
  | .pStep p d => pStep s p d

def init (maxQ maxB : Nat) : St :=
  { maxQ := maxQ, maxB := maxB, head := 0, tail := 0, exported := 0, isShutdown := false, pending := 0, notified := 0,
    wpc := .idle, joined := false, fl := fun _ => .idle, sd := fun _ => .idle, pr := fun _ => .idle, sdLock := none,
    sdHead := 0, tickHead := fun _ => 0, flushedUpTo := 0, inExport := 0, batches := [], expShutdowns := 0,
    sdReturned := false, lateCalls := 0, begun := 0, dropped := 0 }

def run (s : St) : List Act → Option St
  | [] => some s
  | a :: as => match step s a with
    | some s' => run s' as
    | none => none

end Otel.Batch
