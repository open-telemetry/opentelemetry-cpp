import OtelVerif.Model.Hex
/-! Index-explicit models of `detail/string.h` (`SplitString`) and `detail/hex.h` (`HexToBinary`).

Every `s[i]`, every `substr(pos, n)` and every `buffer[pos] = …` of the C++ is an explicit, *checked* access here:
outside the buffer the result is the token `IxFault.oob` (never a totalised default); a left shift of the negative
`HexToInt` value `-1` is the token `IxFault.ub`.  `Lemmas/Idx.lean` (`Idx.splitString_eq`, `Idx.hexToBinary_eq`)
and `Props/C16.lean` (`never_oob`) prove that these tokens are never produced, i.e. the index-explicit code computes exactly the
list functions of `Model/Hex.lean`. -/
namespace Otel

inductive IxFault where
  | oob    -- an index outside the buffer, or `string_view::substr(pos > size)` (throws inside `noexcept` → terminate)
  | ub     -- `HexToInt(c) << 4` with `HexToInt(c) = -1`: left shift of a negative int
  | fuel   -- model artefact: the loop bound of the model was exhausted (proved impossible)
  deriving Repr, DecidableEq

inductive IxRes (α : Type) where
  | ok (a : α)
  | fault (f : IxFault)
  deriving Repr, DecidableEq

def IxRes.bind {α β : Type} (r : IxRes α) (f : α → IxRes β) : IxRes β :=
  match r with
  | .ok a => f a
  | .fault e => .fault e

def IxRes.map {α β : Type} (f : α → β) (r : IxRes α) : IxRes β :=
  match r with
  | .ok a => .ok (f a)
  | .fault e => .fault e

@[simp] theorem IxRes.bind_ok {α β : Type} (a : α) (f : α → IxRes β) : (IxRes.ok a).bind f = f a := rfl
@[simp] theorem IxRes.map_ok {α β : Type} (a : α) (f : α → β) : (IxRes.ok a).map f = .ok (f a) := rfl

namespace Idx

/-- `s[i]` with `i : size_t` -/
def rd (s : Bytes) (i : Nat) : IxRes UInt8 :=
  match s[i]? with
  | some c => .ok c
  | none => .fault .oob

/-- `s.substr(pos, n)`: terminates when `pos > size`; `n` is clipped to what is there -/
def substr (s : Bytes) (pos n : Nat) : IxRes Bytes :=
  if pos > s.length then .fault .oob else .ok ((s.drop pos).take (min n (s.length - pos)))

/-- `s.substr(pos)` (`n = npos`) -/
def substrFrom (s : Bytes) (pos : Nat) : IxRes Bytes :=
  if pos > s.length then .fault .oob else .ok (s.drop pos)

/-- `buffer[pos] = v` with `pos : int64_t` -/
def wr (buf : Bytes) (pos : Int) (v : UInt8) : IxRes Bytes :=
  if 0 ≤ pos ∧ pos < buf.length then .ok (buf.set pos.toNat v) else .fault .oob

/-- after the `for` loop of `SplitString`: `if (filled < count) results[filled++] = s.substr(token_start);` -/
def splitExit (s : Bytes) (count ts : Nat) (acc : List Bytes) : IxRes (List Bytes) :=
  if acc.length < count then (substrFrom s ts).map (fun t => acc ++ [t]) else .ok acc

/-- the `for (i = 0; i < s.size(); i++)` loop of `SplitString`: `i` the index, `ts` = `token_start`,
    `acc` = `results[0..filled)`.  (`i - token_start` is a `size_t` subtraction; `token_start ≤ i` throughout.) -/
def splitLoop (s : Bytes) (sep : UInt8) (count : Nat) : Nat → Nat → Nat → List Bytes → IxRes (List Bytes)
  | 0, i, ts, acc => if i < s.length then .fault .fuel else splitExit s count ts acc
  | fuel + 1, i, ts, acc =>
    if i < s.length then
      (rd s i).bind fun c =>
        if c ≠ sep then splitLoop s sep count fuel (i + 1) ts acc
        else (substr s ts (i - ts)).bind fun tok =>
          let acc' := acc ++ [tok]
          if acc'.length = count then .ok acc' else splitLoop s sep count fuel (i + 1) (i + 1) acc'
    else splitExit s count ts acc

/-- `SplitString(s, sep, results, count)`: the filled prefix of `results` (its length is the return value) -/
def splitString (s : Bytes) (sep : UInt8) (count : Nat) : IxRes (List Bytes) :=
  if count = 0 then .ok [] else splitLoop s sep count s.length 0 0 []

/-- `(HexToInt(a) << 4) | HexToInt(b)` stored into a `uint8_t` -/
def pairVal (a b : UInt8) : IxRes UInt8 :=
  if hexToInt a = 255 then .fault .ub else .ok ((hexToInt a <<< 4) ||| hexToInt b)

/-- `for (; i < last_hex_pos; i += 2) buffer[buffer_pos++] = (HexToInt(hex[i]) << 4) | HexToInt(hex[i + 1]);` -/
def hexLoop (hex : Bytes) (last : Int) : Nat → Nat → Int → Bytes → IxRes Bytes
  | 0, i, _, buf => if (i : Int) < last then .fault .fuel else .ok buf
  | fuel + 1, i, bp, buf =>
    if (i : Int) < last then
      (rd hex i).bind fun a => (rd hex (i + 1)).bind fun b => (pairVal a b).bind fun v =>
        (wr buf bp v).bind fun buf' => hexLoop hex last fuel (i + 2) (bp + 1) buf'
    else .ok buf

/-- `HexToBinary(hex, buffer, n)`: (return value, buffer contents afterwards); `int64_t` arithmetic as `Int` -/
def hexToBinary (hex : Bytes) (n : Nat) : IxRes (Bool × Bytes) :=
  let buf := List.replicate n 0
  if hex.length > n * 2 then .ok (false, buf)
  else
    let size : Int := hex.length
    let bp : Int := (n : Int) - (size + 1) / 2
    let last : Int := size - 1
    if size % 2 = 1 then
      (rd hex 0).bind fun c => (wr buf bp (hexToInt c)).bind fun buf' =>
        (hexLoop hex last hex.length 1 (bp + 1) buf').map fun b => (true, b)
    else (hexLoop hex last hex.length 0 bp buf).map fun b => (true, b)

end Idx
end Otel
