import Driver.Util
/-! `syn <temps> <nrec> <adds> <collects>`: recorders racing collectors on the real `SyncMetricStorage` under the
    deterministic scheduler.  What the C06 theorems (`sched_conservation`, `delta_conservation`,
    `cumulative_running_total`) predict for EVERY interleaving is schedule independent: after the final collection every
    reader has been given exactly what was recorded. -/
namespace Driver

def handleSyn (toks : List String) : String :=
  match splitOps toks with
  | [temps, nrec, adds, ncol] :: _ =>
    match nrec.toNat?, adds.toNat?, ncol.toNat? with
    | some nrec, some adds, some ncol =>
      if temps.isEmpty ∨ temps.length > 3 ∨ nrec = 0 ∨ nrec > 4 ∨ adds > 6 ∨ ncol > 4 ∨ temps.toList.any (fun c => c ≠ 'D' ∧ c ≠ 'C') then "bad-op"
      else
        let total := nrec * (adds * (adds + 1) / 2)
        let rs := (List.range temps.length).map fun i => s!" r{i}={total}"
        s!"done=1 rec={total}" ++ String.join rs
    | _, _, _ => "bad-op"
  | _ => "bad-op"

/-- `mrg <nthreads> <names> <adds> <kind>`: threads that each obtain their own handle of an instrument for the first time
    (`Meter::RegisterSyncMetricStorage`) and record through it.  For EVERY interleaving the get-or-create protocol under
    `storage_lock_` (the model and theorems of `Model/GetScopeLock.lean`: equal keys give the same object) and
    `every_handle_counts_delta` / `sched_conservation` predict one stream per instrument that holds everything recorded through all of
    its handles. -/
def handleMrg (toks : List String) : String :=
  match splitOps toks with
  | [nth, names, adds, kind0] :: _ =>
    match nth.toNat?, adds.toNat? with
    | some nth, some adds =>
      -- `<kind>+` adds a collector thread; the cumulative reader's final total does not depend on it
      let kind := if kind0.length = 2 ∧ kind0.toList.getLast? = some '+' then (kind0.take 1).toString else kind0
      let ns := names.toList
      if nth = 0 ∨ nth > 4 ∨ ns.length ≠ nth ∨ adds = 0 ∨ adds > 5 ∨ (kind ≠ "c" ∧ kind ≠ "u" ∧ kind ≠ "h") ∨
          ns.any (fun c => ¬ (('a' ≤ c ∧ c ≤ 'c') ∨ ('A' ≤ c ∧ c ≤ 'C'))) then "bad-op"
      else
        -- lower case: the shared instrument of that letter; upper case: thread i's own instrument on its own meter
        let idx := (List.range nth).zip ns
        let shared (c : Char) : Nat := idx.foldl (fun acc (i, d) => if d = c then acc + adds * (1 + i) else acc) 0
        let own := ['A', 'B', 'C'].flatMap fun c => (idx.filter (fun (_, d) => d = c)).map fun (i, _) => (s!"{c}{i}", adds * (1 + i))
        let low := (['a', 'b', 'c'].filter (fun c => ns.contains c)).map fun c => (s!"{c}", shared c)
        let all := own ++ low
        let rec_ := ",".intercalate (all.map fun (k, v) => s!"{k}:{v}")
        let got := ",".intercalate (all.map fun (k, v) => s!"{k}:{v}/1")
        s!"done=1 rec={rec_} got={got}"
    | _, _ => "bad-op"
  | _ => "bad-op"

/-- `mpf <nflushers> <nreaders>`: threads that each record and then call `MeterProvider::ForceFlush` (C02).  For EVERY
    interleaving the fan-out model (`Model/Fanout.lean`: a provider flush goes over every child once and returns the
    conjunction) serialized by `forceflush_lock_` predicts: every call returns true and the readers are flushed
    `nflushers * nreaders` times in total. -/
def handleMpf (toks : List String) : String :=
  match splitOps toks with
  | [nfl, nrd] :: _ =>
    match nfl.toNat?, nrd.toNat? with
    | some nfl, some nrd =>
      if nfl = 0 ∨ nfl > 3 ∨ nrd = 0 ∨ nrd > 2 then "bad-op" else s!"done=1 calls={nfl * nrd} rets={nfl}"
    | _, _ => "bad-op"
  | _ => "bad-op"

def C06Race.handlers : List (String × (List String → String)) := [("syn", handleSyn), ("mrg", handleMrg), ("mpf", handleMpf)]

end Driver
